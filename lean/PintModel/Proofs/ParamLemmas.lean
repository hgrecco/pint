/-
  Parameters of contexts (`Model/Context.lean`): `mergeKw` is a loop of assignments (`kwStep` is
  `Dict.upsert`), so after it a key reads the keyword, else the base (`getKV_mergeKw`, from
  `KeyFunctional.find?_foldl`); a successful `enable` resolves every name and pushes the instances
  (`enable_ok`).
-/
import PintModel.Model.Context
import PintModel.Proofs.DictLemmas

namespace Pint.Ctx

/-- `d.get(k)` on an association list (first entry wins) -/
def getKV (l : List (String × Rat)) (k : String) : Option Rat := (l.find? (·.1 == k)).map (·.2)

abbrev keysOf (l : List (String × Rat)) : List String := l.map (·.1)

/-- one step of `mergeKw` (the function folded over the keyword list) -/
def kwStep (acc : List (String × Rat)) (p : String × Rat) : List (String × Rat) :=
  if acc.any (·.1 == p.1) then acc.map (fun q => if q.1 == p.1 then p else q) else acc ++ [p]

theorem mergeKw_eq_foldl (base kw : List (String × Rat)) : mergeKw base kw = kw.foldl kwStep base := rfl

theorem mergeKw_nil (base : List (String × Rat)) : mergeKw base [] = base := rfl

/-- the parameters handed to `from_context` by `enable_contexts` -/
def enableKw (st : State) (kw : List (String × Rat)) : List (String × Rat) :=
  if (chainDefaults st).isEmpty then kw else mergeKw (chainDefaults st) kw

@[simp] theorem getKV_nil (k : String) : getKV [] k = none := rfl

theorem getKV_eq_find? (l : List (String × Rat)) (k : String) : getKV l k = Dict.find? l k :=
  Dict.map_find?_eq l k

theorem getKV_kwStep (acc : List (String × Rat)) (p : String × Rat) (k : String) :
    getKV (kwStep acc p) k = if p.1 = k then some p.2 else getKV acc k := by
  rw [getKV_eq_find?, getKV_eq_find?]
  exact Dict.find?_upsert acc p k

theorem getKV_mergeKw (base kw : List (String × Rat)) (hkw : (keysOf kw).Nodup) (k : String) :
    getKV (mergeKw base kw) k = (getKV kw k).orElse fun _ => getKV base k := by
  simp only [getKV_eq_find?]
  exact ((LoadLemmas.keyFunctional_of_nodup hkw).find?_foldl Dict.find?_upsert base k).trans Option.or_eq_orElse

theorem keysOf_kwStep_nodup (acc : List (String × Rat)) (p : String × Rat) (h : (keysOf acc).Nodup) :
    (keysOf (kwStep acc p)).Nodup :=
  Dict.nodup_keys_upsert acc p h

theorem keysOf_mergeKw_nodup (base kw : List (String × Rat)) (h : (keysOf base).Nodup) :
    (keysOf (mergeKw base kw)).Nodup :=
  List.foldlRecOn kw kwStep h fun acc hacc p _ => keysOf_kwStep_nodup acc p hacc

theorem fromContext_name (c : Context) (kw : List (String × Rat)) : (fromContext c kw).name = c.name := by
  unfold fromContext; split <;> rfl

theorem fromContext_rules (c : Context) (kw : List (String × Rat)) : (fromContext c kw).rules = c.rules := by
  unfold fromContext; split <;> rfl

/-- also for `kw = []`, where `fromContext` returns `c` itself -/
theorem fromContext_defaults (c : Context) (kw : List (String × Rat)) :
    (fromContext c kw).defaults = mergeKw c.defaults kw := by
  unfold fromContext
  split
  · next h => rw [List.isEmpty_iff.mp h]; rfl
  · rfl

theorem keysOf_fromContext_nodup (c : Context) (kw : List (String × Rat)) (h : (keysOf c.defaults).Nodup) :
    (keysOf (fromContext c kw).defaults).Nodup :=
  fromContext_defaults c kw ▸ keysOf_mergeKw_nodup _ _ h

theorem getKV_fromContext (c : Context) (kw : List (String × Rat)) (hkw : (keysOf kw).Nodup) (k : String) :
    getKV (fromContext c kw).defaults k = (getKV kw k).orElse fun _ => getKV c.defaults k :=
  fromContext_defaults c kw ▸ getKV_mergeKw _ _ hkw k

theorem keysOf_enableKw_nodup (st : State) (kw : List (String × Rat))
    (hkw : (keysOf kw).Nodup) (hd : (keysOf (chainDefaults st)).Nodup) : (keysOf (enableKw st kw)).Nodup := by
  unfold enableKw
  split
  · exact hkw
  · exact keysOf_mergeKw_nodup _ _ hd

theorem getKV_enableKw (st : State) (kw : List (String × Rat)) (hkw : (keysOf kw).Nodup) (k : String) :
    getKV (enableKw st kw) k = (getKV kw k).orElse fun _ => getKV (chainDefaults st) k := by
  unfold enableKw
  split
  · next h => rw [List.isEmpty_iff.mp h]; cases getKV kw k <;> rfl
  · exact getKV_mergeKw _ _ hkw k

theorem getKV_instance (st : State) (c : Context) (kw : List (String × Rat))
    (hkw : (keysOf kw).Nodup) (hd : (keysOf (chainDefaults st)).Nodup) (k : String) :
    getKV (fromContext c (enableKw st kw)).defaults k =
      (getKV kw k).orElse fun _ => (getKV (chainDefaults st) k).orElse fun _ => getKV c.defaults k := by
  rw [getKV_fromContext _ _ (keysOf_enableKw_nodup st kw hkw hd), getKV_enableKw _ _ hkw]
  cases getKV kw k <;> rfl

theorem enable_eq (st : State) (names : List String) (kw : List (String × Rat)) :
    enable st names kw =
      match enable.resolve st names with
      | .error e => .error e
      | .ok cs => .ok { st with active := (cs.map (fun c => fromContext c (enableKw st kw))).reverse ++ st.active } := rfl

theorem enable_ok {st st' : State} {names : List String} {kw : List (String × Rat)}
    (h : enable st names kw = .ok st') :
    ∃ cs, enable.resolve st names = .ok cs ∧
      st' = { st with active := (cs.map (fun c => fromContext c (enableKw st kw))).reverse ++ st.active } := by
  rw [enable_eq] at h
  split at h
  · cases h
  · next cs hres => exact ⟨cs, hres, (Except.ok.inj h).symm⟩

theorem resolve_cons_ok {st : State} {n : String} {ns : List String} {cs : List Context}
    (h : enable.resolve st (n :: ns) = .ok cs) :
    ∃ key c cs', st.contexts.find? (·.1 == n) = some (key, c) ∧ enable.resolve st ns = .ok cs' ∧ cs = c :: cs' := by
  simp only [enable.resolve] at h
  split at h
  · cases h
  · next key c hc =>
    split at h
    · next cs' hcs => simp only [Except.ok.injEq] at h; exact ⟨key, c, cs', hc, hcs, h.symm⟩
    · cases h

theorem resolve_ok {st : State} {ns : List String} {cs : List Context} (h : enable.resolve st ns = .ok cs) :
    cs.length = ns.length ∧
    ∀ i (hi : i < ns.length) (hc : i < cs.length), ∃ key, st.contexts.find? (·.1 == ns[i]) = some (key, cs[i]) := by
  induction ns generalizing cs with
  | nil =>
    simp only [enable.resolve, Except.ok.injEq] at h
    subst h
    exact ⟨rfl, fun i hi => absurd hi (Nat.not_lt_zero _)⟩
  | cons n t ih =>
    obtain ⟨key, c, cs', hc, hcs, rfl⟩ := resolve_cons_ok h
    obtain ⟨hl, hall⟩ := ih hcs
    refine ⟨by simp [hl], ?_⟩
    intro i hi hci
    cases i with
    | zero => exact ⟨key, hc⟩
    | succ j =>
      simp only [List.getElem_cons_succ]
      exact hall j (by simpa using hi) (by simpa using hci)

theorem resolve_mem {st : State} {ns : List String} {cs : List Context} (h : enable.resolve st ns = .ok cs) :
    ∀ c ∈ cs, ∃ p ∈ st.contexts, p.2 = c := by
  intro c hc
  obtain ⟨i, hi, rfl⟩ := List.mem_iff_getElem.mp hc
  obtain ⟨hl, hall⟩ := resolve_ok h
  obtain ⟨key, hk⟩ := hall i (hl ▸ hi) hi
  exact ⟨_, List.mem_of_find?_eq_some hk, rfl⟩

theorem resolve_unknown (st : State) (names : List String) (n : String)
    (hn : n ∈ names) (hu : st.contexts.find? (·.1 == n) = none) :
    ∃ m, enable.resolve st names = .error (.unknown m) := by
  induction names with
  | nil => cases hn
  | cons a t ih =>
    simp only [enable.resolve]
    cases ha : st.contexts.find? (·.1 == a) with
    | none => exact ⟨a, rfl⟩
    | some p =>
      have hnt : n ∈ t := by
        rcases List.mem_cons.mp hn with rfl | h
        · rw [hu] at ha; cases ha
        · exact h
      obtain ⟨m, hm⟩ := ih hnt
      exact ⟨m, by simp only [hm]⟩

end Pint.Ctx
