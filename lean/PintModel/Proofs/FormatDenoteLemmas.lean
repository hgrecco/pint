/-
  The unit formatter (`Model/Format.lean`, `Model/FormatDenote.lean`).

  Denotation: multiplying and dividing containers add and subtract `sumGet` (`Proofs/UCLemmas.lean`)
  at every key with no hypothesis on the keys, so what a written structure denotes is read off
  term by term, and distinct names are needed only at the very end, to turn `sumGet` of the
  formatted unit into `get`.
  Rendering: `formatter` and `FExpr.render ∘ formatterExpr` run the same `mapM`s and the same
  joins; they differ in where they test for emptiness (rendered texts / written terms), and a
  successful `mapM` keeps that.
-/
import PintModel.Model.FormatDenote
import PintModel.Proofs.UCLemmas

deriving instance DecidableEq for Pint.Fmt.FExpr

namespace Pint.Fmt.DenoteLemmas
open Pint Pint.Fmt

/-- the items a list of written terms stands for -/
def toUC (ts : List FTerm) : UC := ts.map fun t => (t.name, t.exp.getD 1)

@[simp] theorem toUC_nil : toUC [] = [] := rfl

theorem toUC_append (a b : List FTerm) : toUC (a ++ b) = toUC a ++ toUC b := List.map_append

theorem keys_toUC (ts : List FTerm) : (toUC ts).keys = ts.map (·.name) := by
  simp [toUC, UC.keys]

/-- `UC.mul` is itself a fold with one step per item -/
theorem foldl_mul_denote (ts : List FTerm) (a : UC) :
    ts.foldl (fun acc t => acc.mul t.denote) a = a.mul (toUC ts) := by
  unfold UC.mul toUC; rw [List.foldl_map]; rfl

theorem foldl_div_denote (ts : List FTerm) (a : UC) :
    ts.foldl (fun acc t => acc.div t.denote) a = a.div (toUC ts) := by
  unfold UC.div toUC; rw [List.foldl_map]; rfl

theorem get_prodDenote (ts : List FTerm) (k : String) :
    (prodDenote ts).get k = sumGet (toUC ts) k := by
  rw [prodDenote, foldl_mul_denote, get_mul, UC.get_nil, Rat.zero_add]

theorem nodup_keys_prodDenote (ts : List FTerm) : (prodDenote ts).keys.Nodup := by
  rw [prodDenote, foldl_mul_denote, UC.mul_eq_merge]
  exact (UC.canon_merge 1 (a := []) ⟨List.nodup_nil, fun _ h => nomatch h⟩ _).1

theorem get_denote_ratioSeq (pos neg : List FTerm) (k : String) :
    (FExpr.ratioSeq pos neg).denote.get k = sumGet (toUC pos) k - sumGet (toUC neg) k := by
  rw [FExpr.denote, foldl_div_denote, get_div, get_prodDenote]

theorem get_denote_ratioGroup (pos neg : List FTerm) (k : String) :
    (FExpr.ratioGroup pos neg).denote.get k = sumGet (toUC pos) k - sumGet (toUC neg) k := by
  rw [FExpr.denote, get_div, sumGet_eq_get (nodup_keys_prodDenote neg), get_prodDenote,
    get_prodDenote]

theorem seq_eq_group (pos neg : List FTerm) :
    UC.Equiv (FExpr.ratioSeq pos neg).denote (FExpr.ratioGroup pos neg).denote := by
  intro k
  rw [get_denote_ratioSeq, get_denote_ratioGroup]

/-- the written term of a numerator item -/
def posTerm (asRatio : Bool) (p : String × Rat) : FTerm :=
  if p.2 == 1 then ⟨p.1, none⟩ else ⟨p.1, some (if asRatio then absRat p.2 else p.2)⟩

/-- the written term of a denominator item -/
def negTerm (asRatio : Bool) (p : String × Rat) : FTerm :=
  if p.2 == -1 && asRatio then ⟨p.1, none⟩ else ⟨p.1, some (if asRatio then absRat p.2 else p.2)⟩

/-- the branches of `formatterExpr` over term lists -/
def exprOf (asRatio singleDen : Bool) (pos neg : List FTerm) : FExpr :=
  if pos.isEmpty && neg.isEmpty then .empty
  else if !asRatio then .prod (pos ++ neg)
  else if neg.isEmpty then .numer pos
  else if singleDen then .ratioGroup pos neg
  else .ratioSeq pos neg

theorem formatterExpr_eq (asRatio singleDen : Bool) (num den : List (String × Rat)) :
    formatterExpr asRatio singleDen num den
      = exprOf asRatio singleDen (num.map (posTerm asRatio)) (den.map (negTerm asRatio)) := rfl

/-- whichever structure is chosen, it reads the exponents written in the numerator plus (product
    form) or minus (ratio forms) those written in the denominator -/
theorem get_denote_exprOf (asRatio singleDen : Bool) (pos neg : List FTerm) (k : String) :
    (exprOf asRatio singleDen pos neg).denote.get k
      = sumGet (toUC pos) k + (if asRatio then -1 else 1) * sumGet (toUC neg) k := by
  unfold exprOf
  split
  · next h =>
    simp only [Bool.and_eq_true, List.isEmpty_iff] at h
    simp [h.1, h.2, FExpr.denote, Rat.add_zero]
  · cases asRatio
    · simp [FExpr.denote, get_prodDenote, toUC_append, sumGet_append]
    · simp only [Bool.not_true, Bool.false_eq_true, if_false, if_true, Rat.neg_mul, Rat.one_mul,
        ← Rat.sub_eq_add_neg]
      split
      · next h =>
        simp [List.isEmpty_iff.mp h, FExpr.denote, get_prodDenote, Rat.sub_eq_add_neg, Rat.add_zero]
      · split
        · exact get_denote_ratioGroup pos neg k
        · exact get_denote_ratioSeq pos neg k

/-- a numerator item is written with its own exponent: the absolute value is taken only under
    as_ratio, where the exponent is not negative -/
theorem toUC_map_posTerm (asRatio : Bool) (num : UC) (hn : asRatio = true → ∀ p ∈ num, ¬ p.2 < 0) :
    toUC (num.map (posTerm asRatio)) = num := by
  rw [toUC, List.map_map]
  refine (List.map_congr_left fun p hp => ?_).trans (List.map_id _)
  simp only [Function.comp, posTerm, absRat]
  split
  · next h => rw [← eq_of_beq h]; rfl
  · cases asRatio
    · rfl
    · simp [hn rfl p hp]

/-- a denominator item is written with its exponent negated under as_ratio (where the bare name
    stands for the exponent -1) and with its own exponent otherwise -/
theorem toUC_map_negTerm (asRatio : Bool) (den : UC) (hd : asRatio = true → ∀ p ∈ den, p.2 < 0) :
    toUC (den.map (negTerm asRatio)) = den.map fun p => (p.1, (if asRatio then -1 else 1) * p.2) := by
  rw [toUC, List.map_map]
  refine List.map_congr_left fun p hp => ?_
  cases asRatio
  · simp [negTerm, Rat.one_mul]
  · simp only [Function.comp, negTerm, absRat, hd rfl p hp, Bool.and_true, if_true, Rat.neg_mul,
      Rat.one_mul]
    split
    · next h => rw [eq_of_beq h]; rfl
    · rfl

/-- formatter level, names need not be distinct: at every key the written structure reads the sum
    of the exponents handed over under that key -/
theorem get_denote_formatterExpr (asRatio singleDen : Bool) (num den : UC)
    (hn : asRatio = true → ∀ p ∈ num, ¬ p.2 < 0) (hd : asRatio = true → ∀ p ∈ den, p.2 < 0)
    (k : String) :
    (formatterExpr asRatio singleDen num den).denote.get k = sumGet (num ++ den) k := by
  rw [formatterExpr_eq, get_denote_exprOf, toUC_map_posTerm asRatio num hn,
    toUC_map_negTerm asRatio den hd, sumGet_map_mul, sumGet_append, ← Rat.mul_assoc]
  cases asRatio <;> simp [Rat.one_mul, Rat.mul_neg, Rat.neg_neg]

theorem insertBy_perm {α : Type} (le : α → α → Bool) (x : α) (l : List α) :
    (insertBy le x l).Perm (x :: l) := by
  induction l with
  | nil => exact .refl _
  | cons y ys ih =>
    unfold insertBy
    split
    · exact .refl _
    · exact (ih.cons y).trans (.swap x y ys)

theorem sortBy_perm {α : Type} (le : α → α → Bool) (l : List α) : (sortBy le l).Perm l := by
  induction l with
  | nil => exact .refl _
  | cons x xs ih => exact (insertBy_perm le x _).trans (ih.cons x)

/-- the display name `prepare` uses -/
def dispName (R : Registry) (short : Bool) (k : String) : String :=
  if short then (match R.units.find? k with | some d => d.sym | none => k) else k

theorem dispName_short (R : Registry) (k : String) :
    dispName R true k = (match R.units.find? k with | some d => d.sym | none => k) := rfl

/-- the unit with every name replaced by its display name -/
def shown (R : Registry) (short : Bool) (u : UC) : UC := u.map fun p => (dispName R short p.1, p.2)

theorem shown_long (R : Registry) (u : UC) : shown R false u = u := List.map_id _

theorem keys_shown (R : Registry) (short : Bool) (u : UC) :
    (shown R short u).keys = u.map fun p => dispName R short p.1 := by
  simp [shown, UC.keys]

theorem prepare_eq (R : Registry) (u : UC) (short asRatio : Bool) (hne : u ≠ []) :
    let items : List (String × Rat × String) := u.map fun p => (dispName R short p.1, p.2, p.1)
    let srt := sortBy (fun (a b : String × Rat × String) => decide (a.2.2 ≤ b.2.2))
    let proj := fun (t : String × Rat × String) => (t.1, t.2.1)
    prepare R u short asRatio =
      ((srt (if asRatio then items.filter (fun t => !decide (t.2.1 < 0)) else items)).map proj,
       (srt (if asRatio then items.filter (fun t => decide (t.2.1 < 0)) else [])).map proj) := by
  cases u with
  | nil => exact absurd rfl hne
  | cons _ _ => cases asRatio <;> simp only [prepare, List.partition_eq_filter_filter] <;> rfl

theorem prepare_spec (R : Registry) (u : UC) (short asRatio : Bool) (hne : u ≠ []) :
    ((prepare R u short asRatio).1 ++ (prepare R u short asRatio).2).Perm (shown R short u) ∧
    (asRatio = true → (∀ p ∈ (prepare R u short asRatio).1, ¬ p.2 < 0) ∧
                       (∀ p ∈ (prepare R u short asRatio).2, p.2 < 0)) := by
  rw [prepare_eq R u short asRatio hne]
  have hshown : shown R short u = (u.map fun p => (dispName R short p.1, p.2, p.1)).map
      fun t => (t.1, t.2.1) := by simp [shown]
  rw [hshown, ← List.map_append]
  refine ⟨(((sortBy_perm _ _).append (sortBy_perm _ _)).trans ?_).map _, fun ha => ?_⟩
  · cases asRatio
    · simp
    · exact List.perm_append_comm.trans (List.filter_append_perm _ _)
  · subst ha
    constructor
    · intro p hp
      obtain ⟨t, ht, rfl⟩ := List.mem_map.mp hp
      simpa using (List.mem_filter.mp ((sortBy_perm _ _).mem_iff.mp ht)).2
    · intro p hp
      obtain ⟨t, ht, rfl⟩ := List.mem_map.mp hp
      simpa using (List.mem_filter.mp ((sortBy_perm _ _).mem_iff.mp ht)).2

/-- registry level, display names need not be distinct: at every key the written structure reads
    the sum of the exponents of the names displayed under that key -/
theorem get_denote_prepare (R : Registry) (u : UC) (hne : u ≠ []) (short asRatio singleDen : Bool)
    (k : String) :
    (formatterExpr asRatio singleDen (prepare R u short asRatio).1
        (prepare R u short asRatio).2).denote.get k = sumGet (shown R short u) k := by
  obtain ⟨hperm, hsign⟩ := prepare_spec R u short asRatio hne
  rw [get_denote_formatterExpr _ _ _ _ (fun h => (hsign h).1) (fun h => (hsign h).2),
    sumGet_perm hperm]

/-- the text of a numerator item, as `formatter` computes it -/
def posText (st : Style) (p : String × Rat) : Option String :=
  if p.2 == 1 then some p.1
  else ((expText (if st.asRatio then absRat p.2 else p.2)).bind fun t =>
      some (if st.prettyExp then prettyExp t else t)).map fun e => subst st.powerFmt [p.1, e]

def negText (st : Style) (p : String × Rat) : Option String :=
  if p.2 == -1 && st.asRatio then some p.1
  else ((expText (if st.asRatio then absRat p.2 else p.2)).bind fun t =>
      some (if st.prettyExp then prettyExp t else t)).map fun e => subst st.powerFmt [p.1, e]

/-- the joins of `formatter` over the rendered terms, with its two emptiness tests as parameters
    (`pe`: no numerator text, `ne`: no denominator text) -/
def joinM (st : Style) (pe ne : Bool) (pos neg : List String) : Option String :=
  if pe && ne then pure ""
  else if !st.asRatio then pure (joinU st.productFmt (pos ++ neg))
  else
    let posRet := let j := joinU st.productFmt pos; if j == "" then "1" else j
    if ne then pure posRet
    else
      let negRet :=
        if st.singleDenominator then
          let j := joinU st.productFmt neg
          if neg.length > 1 then subst st.parenthesesFmt [j] else j
        else joinU st.divisionFmt neg
      pure (joinU st.divisionFmt [posRet, negRet])

theorem formatter_eq (st : Style) (num den : List (String × Rat)) :
    formatter st num den =
      (num.mapM (posText st)).bind fun pos => (den.mapM (negText st)).bind fun neg =>
        joinM st pos.isEmpty neg.isEmpty pos neg := rfl

theorem render_term_some (st : Style) (k : String) (e : Rat) :
    FTerm.render st ⟨k, some e⟩ = ((expText e).bind fun t =>
      some (if st.prettyExp then prettyExp t else t)).map fun e => subst st.powerFmt [k, e] := by
  simp only [FTerm.render]
  cases expText e <;> simp only [Option.map_none, Option.bind_none, Option.map_some, Option.bind_some]

theorem render_posTerm (st : Style) (p : String × Rat) :
    (posTerm st.asRatio p).render st = posText st p := by
  unfold posTerm posText
  split
  · rfl
  · exact render_term_some ..

theorem render_negTerm (st : Style) (p : String × Rat) :
    (negTerm st.asRatio p).render st = negText st p := by
  unfold negTerm negText
  split
  · rfl
  · exact render_term_some ..

theorem isEmpty_of_mapM {α β : Type} {f : α → Option β} {l : List α} {l' : List β}
    (h : l.mapM f = some l') : l'.isEmpty = l.isEmpty := by
  cases l with
  | nil => cases h; rfl
  | cons a l =>
    rw [List.mapM_cons] at h
    cases hb : f a <;> cases hl : l.mapM f <;> simp [hb, hl] at h
    subst h; rfl

theorem render_exprOf (st : Style) (P N : List FTerm) :
    (exprOf st.asRatio st.singleDenominator P N).render st =
      (P.mapM (FTerm.render st)).bind fun pos => (N.mapM (FTerm.render st)).bind fun neg =>
        joinM st P.isEmpty N.isEmpty pos neg := by
  unfold exprOf joinM
  split
  · next h =>
    simp only [Bool.and_eq_true, List.isEmpty_iff] at h
    rw [h.1, h.2]; rfl
  · split
    · rw [FExpr.render, List.mapM_append]
      cases P.mapM (FTerm.render st) <;> cases N.mapM (FTerm.render st) <;> rfl
    · split
      · next h => rw [List.isEmpty_iff.mp h]; rfl
      · split <;> rfl

end Pint.Fmt.DenoteLemmas
