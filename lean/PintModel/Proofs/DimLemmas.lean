/-
  The dimensionality expansion `_get_dimensionality_recurse` (model: `Registry.dimRec`) computes
  `acc + exp • Σ_{(k,v) ∈ ref} v • δ(k)`: characterisation by a pure denotation `dimVal`, and the
  homomorphism lemmas for `getDimensionality` that follow.
-/
import PintModel.Proofs.SumLemmas
import PintModel.Model.Registry

namespace Pint
open UC

/-- how a kernel evaluation of an `Except` value (read through `toOption`, which needs no
    decidable equality on errors) is turned back into an equation -/
theorem Except.eq_ok_of_toOption {ε α : Type} {x : Except ε α} {v : α} (h : x.toOption = some v) :
    x = .ok v := by
  cases x with
  | ok a => exact congrArg Except.ok (Option.some.inj h)
  | error e => cases h

/-- A denotation that may be undefined and a computation that may fail succeed together, and then
    their values are related by `P`.  The specifications of the fuel-driven expansions have this
    shape; it composes along `foldItems` (`Together.foldItems_cons`). -/
def Together {α β : Type} (den : Option α) (run : Except Err β) (P : α → β → Prop) : Prop :=
  (∃ a b, den = some a ∧ run = .ok b ∧ P a b) ∨ (den = none ∧ ∃ err, run = .error err)

namespace Together
variable {α β γ σ : Type} {x : Option α} {y : Except Err β} {P Q : α → β → Prop}

theorem ok {a : α} {b : β} (h : P a b) : Together (some a) (.ok b) P := .inl ⟨a, b, rfl, rfl, h⟩

theorem error (e : Err) : Together (none : Option α) (.error e : Except Err β) P := .inr ⟨rfl, e, rfl⟩

theorem map {f : α → γ} {Q : γ → β → Prop} (h : Together x y P) (hPQ : ∀ a b, P a b → Q (f a) b) :
    Together (x.map f) y Q := by
  rcases h with ⟨a, b, rfl, hy, hp⟩ | ⟨rfl, he⟩
  · exact .inl ⟨f a, b, rfl, hy, hPQ a b hp⟩
  · exact .inr ⟨rfl, he⟩

theorem of_ok (h : Together x y P) {b : β} (hy : y = .ok b) : ∃ a, x = some a ∧ P a b := by
  rcases h with ⟨a, b', hx, hy', hp⟩ | ⟨_, e, he⟩
  · cases hy.symm.trans hy'; exact ⟨a, hx, hp⟩
  · cases hy.symm.trans he

theorem of_some (h : Together x y P) {a : α} (hx : x = some a) : ∃ b, y = .ok b ∧ P a b := by
  rcases h with ⟨a', b, hx', hy, hp⟩ | ⟨hx', _⟩
  · cases hx.symm.trans hx'; exact ⟨b, hy, hp⟩
  · cases hx.symm.trans hx'

/-- one item of a `foldItems`: the head's denotation `x` goes with the step, the tail's
    denotation `y` with the rest of the fold -/
theorem foldItems_cons {x : Option α} {y : Option β} {c : α → β → γ}
    {step : String → Rat → σ → Except Err σ} {k : String} {v : Rat} {t : UC} {acc : σ}
    {P : α → σ → Prop} {Q : σ → β → σ → Prop} {R : γ → σ → Prop}
    (h1 : Together x (step k v acc) P) (h2 : ∀ a', Together y (Registry.foldItems step t a') (Q a'))
    (h3 : ∀ a a' b r, x = some a → y = some b → P a a' → Q a' b r → R (c a b) r) :
    Together (x.bind fun a => y.map (c a)) (Registry.foldItems step ((k, v) :: t) acc) R := by
  unfold Registry.foldItems
  rcases h1 with ⟨a, a', rfl, hs, hp⟩ | ⟨rfl, e, hs⟩ <;> rw [hs]
  · rcases h2 a' with ⟨b, r, rfl, hr, hq⟩ | ⟨rfl, e, he⟩
    · exact .inl ⟨_, r, rfl, hr, h3 _ _ _ _ rfl rfl hp hq⟩
    · exact .inr ⟨rfl, e, he⟩
  · exact .inr ⟨rfl, e, rfl⟩

end Together

namespace Registry

/-- what one key contributes per unit exponent, as a function of the base dimension -/
def keyVal (R : Registry) (rec : UC → Option (String → Rat)) (k : String) : Option (String → Rat) :=
  if isDimName k then
    match R.dims.find? k with
    | none => none
    | some ⟨_, some r⟩ => rec r
    | some ⟨_, none⟩ => some (fun d => if k = d then 1 else 0)
  else
    match R.resolve k with
    | .ok (_, some d) => rec d.ref
    | _ => none

/-- `Σ_{(k,v) ∈ u} v • kv k`, undefined as soon as one `kv k` is -/
def sumVal (kv : String → Option (String → Rat)) : UC → Option (String → Rat)
  | [] => some (fun _ => 0)
  | (k, v) :: t =>
    match kv k, sumVal kv t with
    | some f, some g => some (fun d => v * f d + g d)
    | _, _ => none

/-- denotation of the dimensionality expansion `dimRec` with the same fuel: `none` where it fails -/
def dimVal (R : Registry) : Nat → UC → Option (String → Rat)
  | 0, _ => none
  | n + 1, ref => sumVal (R.keyVal (dimVal R n)) ref

theorem sumVal_cons (kv : String → Option (String → Rat)) (k : String) (v : Rat) (t : UC) :
    sumVal kv ((k, v) :: t) = (kv k).bind fun f => (sumVal kv t).map fun g d => v * f d + g d := by
  simp only [sumVal]; cases kv k <;> cases sumVal kv t <;> rfl

/-- `_get_dimensionality_recurse` fails exactly where the denotation is undefined, and otherwise adds `e • dimVal` to
    the accumulator.  The statement is a `Together`, written out. -/
theorem dimRec_spec (R : Registry) : ∀ (n : Nat) (ref : UC) (e : Rat) (acc : UC),
    (∃ f r, R.dimVal n ref = some f ∧ R.dimRec n ref e acc = .ok r ∧
        (∀ d, r.get d = acc.get d + e * f d) ∧ (acc.keys.Nodup → r.keys.Nodup)) ∨
    (R.dimVal n ref = none ∧ ∃ err, R.dimRec n ref e acc = .error err) := by
  intro n
  induction n with
  | zero => exact fun _ _ _ => Together.error _
  | succ n ih =>
    intro ref
    induction ref with
    | nil => exact fun e acc => Together.ok ⟨by simp [Rat.mul_zero, Rat.add_zero], id⟩
    | cons p t iht =>
      intro e acc
      obtain ⟨k, v⟩ := p
      have hstep : Together (R.keyVal (R.dimVal n) k) (R.dimStep (R.dimRec n) e k v acc)
          fun f a' => (∀ d, a'.get d = acc.get d + (e * v) * f d) ∧ (acc.keys.Nodup → a'.keys.Nodup) := by
        unfold keyVal dimStep
        by_cases hd : isDimName k <;> simp only [hd, if_true, Bool.false_eq_true, if_false]
        · rcases R.dims.find? k with _ | ⟨_, _ | r⟩
          · exact .error _
          · exact .ok ⟨get_acc acc k (e * v), fun h => nodup_acc h _ _⟩
          · exact ih _ _ _
        · rcases R.resolve k with _ | ⟨_, _ | d⟩
          · exact .error _
          · exact .error _
          · exact ih _ _ _
      show Together _ _ _
      rw [dimVal, sumVal_cons]
      refine hstep.foldItems_cons (fun a' => iht e a') ?_
      intro f a' g r _ _ ⟨h1, h2⟩ ⟨h3, h4⟩
      exact ⟨fun d => by rw [h3, h1]; grind, h4 ∘ h2⟩

theorem sumVal_eq_ite (kv : String → Option (String → Rat)) (u : UC) :
    sumVal kv u = if u.keys.all (fun k => (kv k).isSome)
      then some (fun d => sumOver u fun k => (kv k).getD (fun _ => 0) d) else none := by
  induction u with
  | nil => rfl
  | cons p t ih =>
    rw [sumVal_cons, ih]
    cases hk : kv p.1 <;> simp [hk]
    split <;> simp [sumOver, hk]

theorem dimVal_merge (R : Registry) (n : Nat) (s : Rat) {a b : UC} (hn : a.keys.Nodup)
    {Fa Fb : String → Rat} (ha : R.dimVal n a = some Fa) (hb : R.dimVal n b = some Fb) :
    R.dimVal n (merge s a b) = some fun d => Fa d + s * Fb d := by
  cases n with
  | zero => cases ha
  | succ n =>
    simp only [dimVal, sumVal_eq_ite, Option.ite_none_right_eq_some, Option.some.injEq,
      List.all_eq_true] at ha hb ⊢
    obtain ⟨ka, rfl⟩ := ha
    obtain ⟨kb, rfl⟩ := hb
    exact ⟨fun k hk => (keys_merge_subset hk).elim (ka k) (kb k), funext fun d => sumOver_merge s hn b _⟩

theorem dimVal_pow (R : Registry) (n : Nat) (r : Rat) {a : UC} {Fa : String → Rat}
    (ha : R.dimVal n a = some Fa) : R.dimVal n (a.pow r) = some fun d => r * Fa d := by
  cases n with
  | zero => cases ha
  | succ n =>
    simp only [dimVal, sumVal_eq_ite, Option.ite_none_right_eq_some, Option.some.injEq,
      List.all_eq_true] at ha ⊢
    obtain ⟨ka, rfl⟩ := ha
    exact ⟨fun k hk => ka k (keys_pow_subset hk), funext fun d => sumOver_pow a r _⟩

theorem getDim_spec (R : Registry) (u : UC) :
    Together (R.dimVal R.fuelOf u) (R.getDimensionality u)
      fun F du => du.Canon ∧ ∀ d, du.get d = if d = "[]" then 0 else F d := by
  cases u with
  | nil => exact .ok ⟨⟨List.nodup_nil, fun _ h => nomatch h⟩, fun d => by simp⟩
  | cons p t =>
    have he : R.getDimensionality (p :: t) = match R.dimRec R.fuelOf (p :: t) 1 [] with
        | .error e => .error e | .ok acc => .ok ((acc.del "[]").dropZeros) := rfl
    rw [he]
    rcases R.dimRec_spec R.fuelOf (p :: t) 1 [] with ⟨F, r, h1, h2, h3, h4⟩ | ⟨h1, err, h2⟩ <;> rw [h1, h2]
    · have hn := nodup_keys_del (h4 List.nodup_nil) "[]"
      refine .ok ⟨⟨nodup_keys_dropZeros hn, noZero_dropZeros _⟩, fun d => ?_⟩
      rw [get_dropZeros hn, get_del, h3 d]
      grind [get_nil]
    · exact .error _

theorem getDim_canon (R : Registry) {u du : UC} (h : R.getDimensionality u = .ok du) : du.Canon :=
  let ⟨_, _, hc, _⟩ := (R.getDim_spec u).of_ok h; hc

theorem getDim_merge (R : Registry) (s : Rat) {a b da db : UC} (hn : a.keys.Nodup)
    (ha : R.getDimensionality a = .ok da) (hb : R.getDimensionality b = .ok db) :
    ∃ dab, R.getDimensionality (merge s a b) = .ok dab ∧ dab.Canon ∧
      ∀ d, dab.get d = da.get d + s * db.get d := by
  obtain ⟨Fa, a1, -, a2⟩ := (R.getDim_spec a).of_ok ha
  obtain ⟨Fb, b1, -, b2⟩ := (R.getDim_spec b).of_ok hb
  obtain ⟨dab, c1, c2, c3⟩ := (R.getDim_spec _).of_some (R.dimVal_merge _ s hn a1 b1)
  refine ⟨dab, c1, c2, fun d => ?_⟩
  rw [c3, a2, b2]
  split <;> simp [Rat.mul_zero, Rat.add_zero]

theorem getDim_pow (R : Registry) (r : Rat) {a da : UC}
    (ha : R.getDimensionality a = .ok da) :
    ∃ dr, R.getDimensionality (a.pow r) = .ok dr ∧ dr.Canon ∧ ∀ d, dr.get d = r * da.get d := by
  obtain ⟨Fa, a1, -, a2⟩ := (R.getDim_spec a).of_ok ha
  obtain ⟨dr, c1, c2, c3⟩ := (R.getDim_spec _).of_some (R.dimVal_pow _ r a1)
  refine ⟨dr, c1, c2, fun d => ?_⟩
  rw [c3, a2]
  split <;> simp [Rat.mul_zero]

theorem foldItems_mono {σ : Type} {s1 s2 : String → Rat → σ → Except Err σ}
    (h : ∀ k e a r, s1 k e a = .ok r → s2 k e a = .ok r) :
    ∀ (u : UC) (a r : σ), foldItems s1 u a = .ok r → foldItems s2 u a = .ok r := by
  intro u
  induction u with
  | nil => exact fun _ _ hr => hr
  | cons p t ih =>
    intro a r hr
    simp only [foldItems] at hr ⊢
    split at hr
    · next a' h1 => rw [h _ _ _ _ h1]; exact ih a' r hr
    · cases hr

theorem dimStep_mono (R : Registry) {rec1 rec2 : UC → Rat → UC → Except Err UC}
    (h : ∀ ref e a r, rec1 ref e a = .ok r → rec2 ref e a = .ok r)
    (exp : Rat) (k : String) (e : Rat) (a r : UC)
    (hr : R.dimStep rec1 exp k e a = .ok r) : R.dimStep rec2 exp k e a = .ok r := by
  grind [dimStep]

theorem dimRec_mono_le (R : Registry) {n m : Nat} (hnm : n ≤ m) (ref : UC) (e : Rat) (acc r : UC)
    (h : R.dimRec n ref e acc = .ok r) : R.dimRec m ref e acc = .ok r := by
  induction n generalizing m ref e acc r with
  | zero => cases h
  | succ n ih =>
    obtain ⟨m, rfl⟩ : ∃ m', m = m' + 1 := ⟨m - 1, by omega⟩
    exact foldItems_mono (R.dimStep_mono (fun ref e a r => ih (by omega) ref e a r) e) ref acc r h

end Registry
end Pint
