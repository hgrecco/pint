/-
  `sumOver u g = Σ_{(k,v) ∈ u} v * g k`, the linear functional in which the denotations of the
  dimensionality and root-unit expansions are written, and how it follows the container operations.
-/
import PintModel.Proofs.UCLemmas

namespace Pint
open UC

theorem nodup_keys_merge (s : Rat) {a : UC} (h : a.keys.Nodup) (b : UC) :
    (merge s a b).keys.Nodup :=
  merge_induction (P := fun u => u.keys.Nodup) s h b fun _ hu _ _ => nodup_keys_upd hu _ _

/-- `Σ_{(k,v) ∈ u} v * g k` -/
def sumOver (u : UC) (g : String → Rat) : Rat :=
  match u with
  | [] => 0
  | (k, v) :: t => v * g k + sumOver t g

@[simp] theorem sumOver_nil (g : String → Rat) : sumOver [] g = 0 := rfl
@[simp] theorem sumOver_cons (k : String) (v : Rat) (t : UC) (g : String → Rat) :
    sumOver ((k, v) :: t) g = v * g k + sumOver t g := rfl

/-- no hypothesis: `set` overwrites the first occurrence, which is the one `get` reads -/
theorem sumOver_set (a : UC) (k : String) (v : Rat) (g : String → Rat) :
    sumOver (a.set k v) g = sumOver a g + (v - a.get k) * g k := by
  fun_induction UC.set a k v <;> grind [sumOver, UC.get]

theorem sumOver_del {a : UC} (h : a.keys.Nodup) (k : String) (g : String → Rat) :
    sumOver (a.del k) g = sumOver a g - a.get k * g k := by
  induction a with
  | nil => simp [UC.del, Rat.sub_self]
  | cons p t ih =>
    simp only [keys_cons, List.nodup_cons] at h
    have := ih h.2
    have := @get_eq_zero_of_not_mem_keys t p.1 h.1
    grind only [UC.del, sumOver, UC.get]

theorem sumOver_upd {a : UC} (h : a.keys.Nodup) (k : String) (nv : Rat) (g : String → Rat) :
    sumOver (a.upd k nv) g = sumOver a g + (nv - a.get k) * g k := by
  unfold upd
  split
  · next h0 => rw [sumOver_del h, h0, Rat.sub_eq_add_neg, Rat.sub_eq_add_neg, Rat.zero_add, Rat.neg_mul]
  · exact sumOver_set a k nv g

theorem sumOver_merge (s : Rat) {a : UC} (h : a.keys.Nodup) (b : UC) (g : String → Rat) :
    sumOver (merge s a b) g = sumOver a g + s * sumOver b g := by
  unfold merge
  induction b generalizing a with
  | nil => simp [Rat.mul_zero, Rat.add_zero]
  | cons p t ih => rw [List.foldl_cons, ih (nodup_keys_upd h _ _), sumOver_upd h]; grind only [sumOver]

theorem sumOver_pow (a : UC) (r : Rat) (g : String → Rat) :
    sumOver (a.pow r) g = r * sumOver a g := by
  induction a with
  | nil => simp [UC.pow, Rat.mul_zero]
  | cons p t ih => unfold UC.pow at ih ⊢; grind [sumOver]

theorem sumOver_congr {u : UC} {g g' : String → Rat} (h : ∀ k ∈ u.keys, g k = g' k) :
    sumOver u g = sumOver u g' := by
  induction u with
  | nil => rfl
  | cons p t ih =>
    rw [keys_cons, List.forall_mem_cons] at h
    rw [sumOver_cons, sumOver_cons, h.1, ih h.2]

end Pint
