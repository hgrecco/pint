/-
  Breadth-first `find_shortest_path` (model: `PintModel/Model/Context.lean`):
  validity, completeness (the fuel `bfsFuel` of the model is proved sufficient) and minimality
  of the returned path.
-/
import PintModel.Model.Context
import PintModel.Proofs.UCLemmas

namespace Pint.Ctx
open Pint

theorem beq_false_of_beq {a b t : UC} (h : a.beq b = true) (hb : a.beq t = false) :
    b.beq t = false := by
  cases hbt : b.beq t with
  | false => rfl
  | true => rw [UC.beq_trans h hbt] at hb; exact hb

/-- `x` is `==` to some element of `vis` -/
def InV (vis : List UC) (x : UC) : Prop := ∃ v ∈ vis, v.beq x = true

theorem any_iff_InV (vis : List UC) (x : UC) : vis.any (·.beq x) = true ↔ InV vis x := by
  simp [InV, List.any_eq_true]

theorem InV_trans {vis : List UC} {x y : UC} (h : InV vis x) (hxy : x.beq y = true) : InV vis y := by
  obtain ⟨v, hv, hvx⟩ := h
  exact ⟨v, hv, UC.beq_trans hvx hxy⟩

/-- the loop's `visited.add`, and the step of `dedupUC` -/
def visit (vis : List UC) (node : UC) : List UC :=
  if vis.any (·.beq node) then vis else vis ++ [node]

theorem mem_visit {vis : List UC} {n v : UC} (h : v ∈ visit vis n) : v ∈ vis ∨ v = n := by
  unfold visit at h
  split at h
  · exact Or.inl h
  · simpa using h

theorem InV_visit_iff {vis : List UC} {n x : UC} :
    InV (visit vis n) x ↔ InV vis x ∨ n.beq x = true := by
  unfold visit; split
  next hany =>
    exact ⟨Or.inl, fun h => h.elim id (InV_trans ((any_iff_InV _ _).mp hany))⟩
  next => simp [InV, or_and_right, exists_or]

theorem InV_visit_mono {vis : List UC} {n x : UC} (h : InV vis x) : InV (visit vis n) x :=
  InV_visit_iff.mpr (Or.inl h)

theorem InV_visit_self {vis : List UC} {n x : UC} (h : n.beq x = true) : InV (visit vis n) x :=
  InV_visit_iff.mpr (Or.inr h)

theorem foldl_visit_sublist (l acc : List UC) : (l.foldl visit acc).Sublist (acc ++ l) := by
  induction l generalizing acc with
  | nil => simp
  | cons y l ih =>
    refine (ih (visit acc y)).trans ?_
    unfold visit; split
    · exact (List.sublist_cons_self y l).append_left acc
    · simp

theorem InV_foldl_visit {l acc : List UC} {x : UC} (hr : x.beq x = true) (hx : InV acc x ∨ x ∈ l) :
    InV (l.foldl visit acc) x := by
  induction l generalizing acc with
  | nil => simpa using hx
  | cons y l ih =>
    refine ih (hx.elim (fun h => Or.inl (InV_visit_mono h)) fun h => ?_)
    rcases List.mem_cons.mp h with rfl | h
    · exact Or.inl (InV_visit_self hr)
    · exact Or.inr h

theorem adj_sublist (es : List (UC × UC)) (n : UC) :
    (adj es n).Sublist ((es.filter (fun e => e.1.beq n)).map (·.2)) :=
  foldl_visit_sublist _ []

theorem mem_adj {es : List (UC × UC)} {n a : UC} (h : a ∈ adj es n) :
    ∃ e ∈ es, e.1.beq n = true ∧ e.2 = a := by
  obtain ⟨e, he, rfl⟩ := List.mem_map.mp ((adj_sublist es n).subset h)
  obtain ⟨he1, he2⟩ := List.mem_filter.mp he
  exact ⟨e, he1, he2, rfl⟩

theorem adj_cover {es : List (UC × UC)} {n : UC} {e : UC × UC} (he : e ∈ es)
    (h1 : e.1.beq n = true) (hr : e.2.beq e.2 = true) : InV (adj es n) e.2 :=
  InV_foldl_visit hr (Or.inr (List.mem_map.mpr ⟨e, List.mem_filter.mpr ⟨he, h1⟩, rfl⟩))

theorem length_adj_le (es : List (UC × UC)) (n : UC) : (adj es n).length ≤ es.length := by
  have h1 := (adj_sublist es n).length_le
  have h2 := List.length_filter_le (fun e : UC × UC => e.1.beq n) es
  rw [List.length_map] at h1
  omega

def nexts (es : List (UC × UC)) (node : UC) (vis : List UC) : List UC :=
  (adj es node).filter (fun a => !((visit vis node).any (·.beq a)))

def push (rest : List (UC × List UC)) (path : List UC) (ns : List UC) : List (UC × List UC) :=
  rest ++ ns.map (fun a => (a, path ++ [a]))

theorem bfs_succ (es : List (UC × UC)) (t : UC) (fuel : Nat) (node : UC) (path : List UC)
    (rest : List (UC × List UC)) (vis : List UC) :
    bfs es t (fuel + 1) ((node, path) :: rest) vis =
      match (nexts es node vis).find? (·.beq t) with
      | some a => some (path ++ [a])
      | none => bfs es t fuel (push rest path (nexts es node vis)) (visit vis node) := rfl

theorem bfs_nil (es : List (UC × UC)) (t : UC) (fuel : Nat) (vis : List UC) :
    bfs es t fuel [] vis = none := by
  cases fuel <;> rfl

theorem mem_nexts {es : List (UC × UC)} {n a : UC} {vis : List UC} :
    a ∈ nexts es n vis ↔ a ∈ adj es n ∧ ¬ InV (visit vis n) a := by
  unfold nexts
  rw [List.mem_filter, ← any_iff_InV]
  simp

theorem mem_push {rest : List (UC × List UC)} {path ns : List UC} {e : UC × List UC} :
    e ∈ push rest path ns ↔ e ∈ rest ∨ ∃ a ∈ ns, e = (a, path ++ [a]) := by
  simp [push, eq_comm]

theorem push_append (A B : List (UC × List UC)) (path ns : List UC) :
    push (A ++ B) path ns = A ++ push B path ns := List.append_assoc ..

/-- "the loop ran out of fuel before the queue emptied or a path was found" -/
def bfsExhausts (es : List (UC × UC)) (target : UC) : Nat → List (UC × List UC) → List UC → Bool
  | _, [], _ => false
  | 0, _ :: _, _ => true
  | fuel + 1, (node, path) :: rest, vis =>
    match (nexts es node vis).find? (·.beq target) with
    | some _ => false
    | none => bfsExhausts es target fuel (push rest path (nexts es node vis)) (visit vis node)

theorem bfsExhausts_succ (es : List (UC × UC)) (t : UC) (fuel : Nat) (node : UC) (path : List UC)
    (rest : List (UC × List UC)) (vis : List UC) :
    bfsExhausts es t (fuel + 1) ((node, path) :: rest) vis =
      match (nexts es node vis).find? (·.beq t) with
      | some _ => false
      | none => bfsExhausts es t fuel (push rest path (nexts es node vis)) (visit vis node) := rfl

theorem bfsExhausts_nil (es : List (UC × UC)) (t : UC) (fuel : Nat) (vis : List UC) :
    bfsExhausts es t fuel [] vis = false := by
  cases fuel <;> rfl

/-- The loop rule.  Every induction over the loop below goes by `bfsExhausts.induct`, whose four cases are the
    four ways an iteration can go: empty queue, no fuel, target found, entries pushed.
    If `P` survives every iteration that pushes, then a returned path was found in a state satisfying `P`,
    and a `none` that is not due to the fuel was answered on an empty queue in a state satisfying `P`. -/
theorem bfs_rule {es : List (UC × UC)} {t : UC} (P : List (UC × List UC) → List UC → Prop)
    (hstep : ∀ node path rest vis, P ((node, path) :: rest) vis →
      (nexts es node vis).find? (·.beq t) = none →
      P (push rest path (nexts es node vis)) (visit vis node))
    (fuel : Nat) (q : List (UC × List UC)) (vis : List UC) (hP : P q vis) :
    (∀ p, bfs es t fuel q vis = some p →
      ∃ node path rest vis' a, P ((node, path) :: rest) vis' ∧
        (nexts es node vis').find? (·.beq t) = some a ∧ p = path ++ [a]) ∧
    (bfs es t fuel q vis = none → bfsExhausts es t fuel q vis = false → ∃ vis', P [] vis') := by
  induction fuel, q, vis using bfsExhausts.induct es t with
  | case1 fuel vis => rw [bfs_nil]; exact ⟨fun _ h => (nomatch h), fun _ _ => ⟨vis, hP⟩⟩
  | case2 hd tl vis => exact ⟨fun _ h => (nomatch h), fun _ h => (nomatch h)⟩
  | case3 fuel node path rest vis a hf =>
    rw [bfs_succ, hf]
    exact ⟨fun p h => ⟨node, path, rest, vis, a, hP, hf, (Option.some.inj h).symm⟩, fun h => (nomatch h)⟩
  | case4 fuel node path rest vis hf ih =>
    rw [bfs_succ, bfsExhausts_succ, hf]
    exact ih (hstep _ _ _ _ hP hf)

def IsWalk (es : List (UC × UC)) (s : UC) (p : List UC) (x : UC) : Prop :=
  isPath es p = true ∧ p.head? = some s ∧ p.getLast? = some x

theorem isPath_append_single {es : List (UC × UC)} {p : List UC} {n a : UC} {e : UC × UC}
    (hp : isPath es p = true) (hl : p.getLast? = some n) (he : e ∈ es)
    (h1 : e.1.beq n = true) (h2 : e.2.beq a = true) : isPath es (p ++ [a]) = true := by
  induction p with
  | nil => simp [isPath] at hp
  | cons x p ih =>
    cases p with
    | nil =>
      simp at hl; subst hl
      simp only [List.cons_append, List.nil_append, isPath, Bool.and_true, List.any_eq_true]
      exact ⟨e, he, by simp [h1, h2]⟩
    | cons y p =>
      simp only [List.cons_append, isPath, Bool.and_eq_true] at hp ⊢
      exact ⟨hp.1, ih hp.2 hl⟩

/-- every edge target is `==` to itself (true when nodes have no duplicate keys) -/
def EdgeRefl (es : List (UC × UC)) : Prop := ∀ e ∈ es, e.2.beq e.2 = true

theorem IsWalk.next {es : List (UC × UC)} (hr : EdgeRefl es) {s n a : UC} {p vis : List UC}
    (h : IsWalk es s p n) (ha : a ∈ nexts es n vis) : IsWalk es s (p ++ [a]) a := by
  obtain ⟨hp, hh, hl⟩ := h
  obtain ⟨e, he, he1, rfl⟩ := mem_adj (mem_nexts.mp ha).1
  exact ⟨isPath_append_single hp hl he he1 (hr e he), by rw [List.head?_append, hh]; rfl, List.getLast?_concat⟩

def ValidQ (es : List (UC × UC)) (s : UC) (q : List (UC × List UC)) : Prop :=
  ∀ e ∈ q, IsWalk es s e.2 e.1

theorem validQ_step {es : List (UC × UC)} (hr : EdgeRefl es) {s node : UC} {path : List UC}
    {rest : List (UC × List UC)} {vis : List UC} (h : ValidQ es s ((node, path) :: rest)) :
    ValidQ es s (push rest path (nexts es node vis)) := by
  intro e he
  rcases mem_push.mp he with he | ⟨a, ha, rfl⟩
  · exact h e (List.mem_cons_of_mem _ he)
  · exact (h (node, path) List.mem_cons_self).next hr ha

theorem bfs_valid {es : List (UC × UC)} (hr : EdgeRefl es) {s t : UC} {fuel : Nat}
    {q : List (UC × List UC)} {vis p : List UC} (hq : ValidQ es s q)
    (h : bfs es t fuel q vis = some p) : ∃ last, IsWalk es s p last ∧ last.beq t = true := by
  obtain ⟨node, path, rest, vis', a, hP, hf, rfl⟩ :=
    (bfs_rule (fun q _ => ValidQ es s q) (fun _ _ _ _ hP _ => validQ_step hr hP) fuel q vis hq).1 p h
  exact ⟨a, (hP (node, path) List.mem_cons_self).next hr (List.mem_of_find?_eq_some hf), (List.find?_some hf :)⟩

/-- the returned list is a walk along edges of `es` from `s` to a node `==` `t` -/
theorem bfs_path {es : List (UC × UC)} (hr : EdgeRefl es) {s t : UC} {p : List UC}
    (h : findShortestPath es s t = some p) :
    isPath es p = true ∧ p.head? = some s ∧ ∃ last, p.getLast? = some last ∧ last.beq t = true := by
  unfold findShortestPath at h
  split at h
  next hst =>
    cases h
    exact ⟨rfl, rfl, s, rfl, hst⟩
  next =>
    obtain ⟨last, ⟨hp, hh, hl⟩, ht⟩ :=
      bfs_valid hr (fun e he => by simp at he; subst he; exact ⟨rfl, rfl, rfl⟩) h
    exact ⟨hp, hh, last, hl, ht⟩

/-- `Reach es s n x` : some walk of `n` nodes starting at `s` ends at `x` (edges matched with `==`) -/
inductive Reach (es : List (UC × UC)) (s : UC) : Nat → UC → Prop
  | base : Reach es s 1 s
  | step {n : Nat} {y x : UC} {e : UC × UC} : Reach es s n y → e ∈ es → e.1.beq y = true →
      e.2.beq x = true → Reach es s (n + 1) x

theorem Reach.pos {es : List (UC × UC)} {s x : UC} {n : Nat} (h : Reach es s n x) : 1 ≤ n := by
  cases h <;> omega

theorem reach_of_isPath_aux {es : List (UC × UC)} {s l : UC} (w : List UC) {a : UC} {n : Nat}
    (hr : Reach es s n a) (hp : isPath es (a :: w) = true) (hl : (a :: w).getLast? = some l) :
    Reach es s (w.length + n) l := by
  induction w generalizing a n with
  | nil => cases hl; simpa using hr
  | cons b w ih =>
    simp only [isPath, Bool.and_eq_true, List.any_eq_true] at hp
    obtain ⟨⟨e, he, he1, he2⟩, hp⟩ := hp
    rw [List.length_cons, Nat.add_right_comm]
    exact ih (hr.step he he1 he2) hp hl

theorem reach_of_isPath {es : List (UC × UC)} {s l : UC} {w : List UC}
    (hp : isPath es w = true) (hh : w.head? = some s) (hl : w.getLast? = some l) :
    Reach es s w.length l := by
  cases w with
  | nil => simp at hh
  | cons a w =>
    cases hh
    exact reach_of_isPath_aux w Reach.base hp hl

/-- The queue is `A ++ B`: `A` holds the entries still to be popped whose paths have `k` nodes, `B` those
    pushed meanwhile, with `k + 1` nodes.  Whatever a walk of fewer than `k` nodes reaches is visited (`ltk`);
    whatever a walk of `k` nodes reaches is visited or waits in `A` (`eqk`); every edge out of a visited node
    leads to a visited node or to one waiting in the queue (`clos`); nothing visited or queued is `==` to the
    target (`ntV`, `ntQ`).  "Visited" and "waits" are up to `==`. -/
structure Inv (es : List (UC × UC)) (s t : UC) (k : Nat) (A B : List (UC × List UC))
    (vis : List UC) : Prop where
  kpos : 1 ≤ k
  lenA : ∀ e ∈ A, e.2.length = k
  lenB : ∀ e ∈ B, e.2.length = k + 1
  eqk : ∀ x, Reach es s k x → InV vis x ∨ ∃ e ∈ A, e.1.beq x = true
  ltk : ∀ n x, n < k → Reach es s n x → InV vis x
  clos : ∀ v ∈ vis, ∀ e ∈ es, e.1.beq v = true →
    InV vis e.2 ∨ ∃ e' ∈ A ++ B, e'.1.beq e.2 = true
  ntV : ∀ v ∈ vis, v.beq t = false
  ntQ : ∀ e ∈ A ++ B, e.1.beq t = false

theorem inv_init {es : List (UC × UC)} {s t : UC} (hs : s.beq s = true) (hst : s.beq t = false) :
    Inv es s t 1 [(s, [s])] [] [] where
  kpos := Nat.le_refl _
  lenA := by simp
  lenB := fun _ he => nomatch he
  eqk := by
    intro x hx
    right
    cases hx with
    | base => exact ⟨(s, [s]), by simp, hs⟩
    | step h _ _ _ => exact absurd h.pos (by omega)
  ltk := fun n x hn hx => absurd hx.pos (by omega)
  clos := fun _ hv => nomatch hv
  ntV := fun _ hv => nomatch hv
  ntQ := by simpa using hst

theorem Inv.cover {es : List (UC × UC)} {s t : UC} {k : Nat} {A B : List (UC × List UC)}
    {vis : List UC} (h : Inv es s t k A B vis) {n : Nat} {x : UC} (hn : n ≤ k) (hx : Reach es s n x) :
    InV vis x ∨ ∃ e ∈ A, e.1.beq x = true := by
  rcases Nat.lt_or_eq_of_le hn with hn | rfl
  · exact Or.inl (h.ltk n x hn hx)
  · exact h.eqk x hx

theorem inv_shift {es : List (UC × UC)} {s t : UC} {k : Nat} {B : List (UC × List UC)}
    {vis : List UC} (h : Inv es s t k [] B vis) : Inv es s t (k + 1) B [] vis := by
  have hlt : ∀ n x, n < k + 1 → Reach es s n x → InV vis x := fun n x hn hx =>
    (h.cover (Nat.le_of_lt_succ hn) hx).resolve_right fun ⟨_, he, _⟩ => nomatch he
  exact {
    kpos := Nat.le_succ_of_le h.kpos
    lenA := h.lenB
    lenB := fun _ he => nomatch he
    ltk := hlt
    eqk := by
      -- a walk of `k + 1` nodes ends with an edge out of a node reached by `k` nodes, which is visited: `clos`
      intro x hx
      cases hx with
      | base => exact absurd h.kpos (by omega)
      | @step _ y _ e hy he h1 h2 =>
        obtain ⟨v, hv, hvy⟩ := hlt _ _ (Nat.lt_succ_self k) hy
        rcases h.clos v hv e he (UC.beq_trans h1 (UC.beq_comm _ _ ▸ hvy)) with h' | ⟨e', he', h'⟩
        · exact Or.inl (InV_trans h' h2)
        · exact Or.inr ⟨e', he', UC.beq_trans h' h2⟩
    clos := (List.append_nil B).symm ▸ h.clos
    ntV := h.ntV
    ntQ := (List.append_nil B).symm ▸ h.ntQ }

/-- popping `(node, path)` moves what it covered from the queue to the visited set -/
theorem cover_pop {vis : List UC} {node x : UC} {path : List UC} {Q Q' : List (UC × List UC)}
    (hQ : ∀ e ∈ Q, e ∈ Q') (h : InV vis x ∨ ∃ e ∈ (node, path) :: Q, e.1.beq x = true) :
    InV (visit vis node) x ∨ ∃ e ∈ Q', e.1.beq x = true := by
  rcases h with h | ⟨e, he, h⟩
  · exact Or.inl (InV_visit_mono h)
  · rcases List.mem_cons.mp he with rfl | he
    · exact Or.inl (InV_visit_self h)
    · exact Or.inr ⟨e, hQ e he, h⟩

theorem inv_pop {es : List (UC × UC)} (hr : EdgeRefl es) {s t : UC} {k : Nat} {node : UC}
    {path : List UC} {A B : List (UC × List UC)} {vis : List UC}
    (h : Inv es s t k ((node, path) :: A) B vis)
    (hf : (nexts es node vis).find? (·.beq t) = none) :
    Inv es s t k A (push B path (nexts es node vis)) (visit vis node) where
  kpos := h.kpos
  lenA := fun e he => h.lenA e (List.mem_cons_of_mem _ he)
  lenB := by
    intro e he
    rcases mem_push.mp he with he | ⟨a, _, rfl⟩
    · exact h.lenB e he
    · simpa using h.lenA (node, path) List.mem_cons_self
  eqk := fun x hx => cover_pop (fun _ he => he) (h.eqk x hx)
  ltk := fun n x hn hx => InV_visit_mono (h.ltk n x hn hx)
  clos := by
    intro v hv e he h1
    rw [← push_append]
    rcases mem_visit hv with hv | rfl
    · exact cover_pop (fun _ he' => mem_push.mpr (Or.inl he')) (h.clos v hv e he h1)
    · -- an edge out of the popped node: `adj` has a node `==` to its target, which is visited or pushed now
      obtain ⟨a, ha, hae⟩ := adj_cover he h1 (hr e he)
      by_cases hin : InV (visit vis v) a
      · exact Or.inl (InV_trans hin hae)
      · exact Or.inr ⟨(a, path ++ [a]), mem_push.mpr (Or.inr ⟨a, mem_nexts.mpr ⟨ha, hin⟩, rfl⟩), hae⟩
  ntV := by
    intro v hv
    rcases mem_visit hv with hv | rfl
    · exact h.ntV v hv
    · exact h.ntQ (v, path) List.mem_cons_self
  ntQ := by
    intro e he
    rcases mem_push.mp (push_append .. ▸ he) with he | ⟨a, ha, rfl⟩
    · exact h.ntQ e (List.mem_cons_of_mem _ he)
    · simpa using List.find?_eq_none.mp hf a ha

def LInv (es : List (UC × UC)) (s t : UC) (q : List (UC × List UC)) (vis : List UC) : Prop :=
  ∃ k A B, q = A ++ B ∧ Inv es s t k A B vis

/-- normal form: the popped head belongs to the current layer -/
theorem linv_head {es : List (UC × UC)} {s t : UC} {hd : UC × List UC}
    {rest : List (UC × List UC)} {vis : List UC} (h : LInv es s t (hd :: rest) vis) :
    ∃ k A B, rest = A ++ B ∧ Inv es s t k (hd :: A) B vis := by
  obtain ⟨k, A, B, hq, hI⟩ := h
  cases A with
  | nil =>
    simp only [List.nil_append] at hq
    subst hq
    exact ⟨k + 1, rest, [], by simp, inv_shift hI⟩
  | cons a A =>
    simp only [List.cons_append, List.cons.injEq] at hq
    obtain ⟨rfl, rfl⟩ := hq
    exact ⟨k, A, B, rfl, hI⟩

theorem linv_step {es : List (UC × UC)} (hr : EdgeRefl es) {s t node : UC} {path : List UC}
    {rest : List (UC × List UC)} {vis : List UC} (h : LInv es s t ((node, path) :: rest) vis)
    (hf : (nexts es node vis).find? (·.beq t) = none) :
    LInv es s t (push rest path (nexts es node vis)) (visit vis node) := by
  obtain ⟨k, A, B, rfl, hI⟩ := linv_head h
  exact ⟨k, A, _, push_append .., inv_pop hr hI hf⟩

theorem linv_init {es : List (UC × UC)} {s t : UC} (hs : s.beq s = true) (hst : s.beq t = false) :
    LInv es s t [(s, [s])] [] :=
  ⟨1, _, _, rfl, inv_init hs hst⟩

theorem inv_no_target {es : List (UC × UC)} {s t : UC} {k : Nat} {A B : List (UC × List UC)}
    {vis : List UC} (h : Inv es s t k A B vis) {n : Nat} {x : UC} (hn : n ≤ k) (hx : Reach es s n x) :
    x.beq t = false := by
  rcases h.cover hn hx with ⟨v, hv, hvx⟩ | ⟨e, he, hex⟩
  · exact beq_false_of_beq hvx (h.ntV v hv)
  · exact beq_false_of_beq hex (h.ntQ e (List.mem_append_left _ he))

theorem bfs_min {es : List (UC × UC)} (hr : EdgeRefl es) {s t : UC} {fuel : Nat}
    {q : List (UC × List UC)} {vis p : List UC} (hq : LInv es s t q vis)
    (h : bfs es t fuel q vis = some p) {n : Nat} {x : UC} (hx : Reach es s n x)
    (hxt : x.beq t = true) : p.length ≤ n := by
  obtain ⟨node, path, rest, vis', a, hP, _, rfl⟩ :=
    (bfs_rule (LInv es s t) (fun _ _ _ _ => linv_step hr) fuel q vis hq).1 p h
  obtain ⟨k, A, B, _, hI⟩ := linv_head hP
  have h1 : ¬ n ≤ k := fun hle => Bool.eq_false_iff.mp (inv_no_target hI hle hx) hxt
  have h2 := hI.lenA (node, path) List.mem_cons_self
  simp at h2 ⊢
  omega

/-- the returned path has the fewest nodes among all walks from `s` to a node `==` `t` -/
theorem bfs_shortest {es : List (UC × UC)} (hr : EdgeRefl es) {s t : UC} (hs : s.beq s = true)
    {p : List UC} (h : findShortestPath es s t = some p) :
    ∀ p' : List UC, isPath es p' = true → p'.head? = some s →
      (∃ last, p'.getLast? = some last ∧ last.beq t = true) → p.length ≤ p'.length := by
  intro p' hp' hh' ⟨l, hl, hlt⟩
  have hx := reach_of_isPath hp' hh' hl
  unfold findShortestPath at h
  split at h
  next =>
    cases h
    exact hx.pos
  next hst => exact bfs_min hr (linv_init hs (Bool.eq_false_iff.mpr hst)) h hx hlt

theorem bfs_none_unreach {es : List (UC × UC)} (hr : EdgeRefl es) {s t : UC} {fuel : Nat}
    {q : List (UC × List UC)} {vis : List UC} (hq : LInv es s t q vis)
    (h : bfs es t fuel q vis = none) (hx : bfsExhausts es t fuel q vis = false) :
    ∀ n x, Reach es s n x → x.beq t = false := by
  obtain ⟨vis', k, A, B, hq', hI⟩ :=
    (bfs_rule (LInv es s t) (fun _ _ _ _ => linv_step hr) fuel q vis hq).2 h hx
  obtain ⟨rfl, rfl⟩ := List.nil_eq_append_iff.mp hq'
  -- with an empty queue the invariant shifts to every later layer
  have hall : ∀ j, Inv es s t (k + j) [] [] vis' := by
    intro j
    induction j with
    | zero => exact hI
    | succ j ih => exact inv_shift ih
  exact fun n x hx => inv_no_target (hall n) (Nat.le_add_left n k) hx

/-! The fuel `bfsFuel es` bounds the number of iterations.

  A node is marked visited when popped, so the queue may hold many entries per node.  Potential:
  with `B = es.length + 1` and `unvis es vis` the number of edges whose target is not yet `==` to
  a visited node, a queue entry `(node, _)` weighs `B ^ unvis es (visit vis node)`.  Weights never
  grow when `vis` grows.  An iteration that does not return replaces the popped entry, of weight
  `B ^ u` with `u = unvis es (visit vis node)`, by at most `es.length = B - 1` entries `(a, _)`
  where `a` is an edge target not yet visited, hence each of weight at most `B ^ (u - 1)`:
  the potential strictly decreases. -/

def unv (vis : List UC) (e : UC × UC) : Bool := !(vis.any (·.beq e.2))

theorem unv_iff {vis : List UC} {e : UC × UC} : unv vis e = true ↔ ¬ InV vis e.2 := by
  unfold unv
  rw [← any_iff_InV]
  cases vis.any (·.beq e.2) <;> simp

def unvis (es : List (UC × UC)) (vis : List UC) : Nat := es.countP (unv vis)

theorem countP_lt_of {α : Type} {p q : α → Bool} {l : List α}
    (h : ∀ x, p x = true → q x = true) {a : α} (ha : a ∈ l) (hq : q a = true)
    (hp : ¬ p a = true) : l.countP p < l.countP q := by
  induction l with
  | nil => cases ha
  | cons b l ih =>
    rw [List.countP_cons, List.countP_cons]
    rcases List.mem_cons.mp ha with rfl | ha
    · have : l.countP p ≤ l.countP q := List.countP_mono_left fun x _ => h x
      rw [if_neg hp, if_pos hq]; omega
    · have ih := ih ha
      by_cases hpb : p b = true
      · rw [if_pos hpb, if_pos (h b hpb)]; omega
      · rw [if_neg hpb]; omega

theorem unv_mono {v1 v2 : List UC} (h : ∀ x, InV v1 x → InV v2 x) (e : UC × UC)
    (he : unv v2 e = true) : unv v1 e = true :=
  unv_iff.mpr fun h1 => unv_iff.mp he (h _ h1)

theorem unvis_mono {es : List (UC × UC)} {v1 v2 : List UC} (h : ∀ x, InV v1 x → InV v2 x) :
    unvis es v2 ≤ unvis es v1 :=
  List.countP_mono_left fun e _ => unv_mono h e

theorem unvis_lt {es : List (UC × UC)} {v1 v2 : List UC} (h : ∀ x, InV v1 x → InV v2 x)
    {e : UC × UC} (he : e ∈ es) (h1 : ¬ InV v1 e.2) (h2 : InV v2 e.2) :
    unvis es v2 < unvis es v1 :=
  countP_lt_of (unv_mono h) he (unv_iff.mpr h1) fun hp => unv_iff.mp hp h2

def wt (es : List (UC × UC)) (vis : List UC) (node : UC) : Nat :=
  (es.length + 1) ^ unvis es (visit vis node)

def pot (es : List (UC × UC)) (vis : List UC) : List (UC × List UC) → Nat
  | [] => 0
  | e :: q => wt es vis e.1 + pot es vis q

theorem pot_append (es : List (UC × UC)) (vis : List UC) (q1 q2 : List (UC × List UC)) :
    pot es vis (q1 ++ q2) = pot es vis q1 + pot es vis q2 := by
  induction q1 with
  | nil => simp [pot]
  | cons e q1 ih => simp only [List.cons_append, pot, ih]; omega

theorem wt_mono {es : List (UC × UC)} {v1 v2 : List UC} (h : ∀ x, InV v1 x → InV v2 x)
    (n : UC) : wt es v2 n ≤ wt es v1 n := by
  unfold wt
  apply Nat.pow_le_pow_right (Nat.succ_pos _)
  apply unvis_mono
  intro x hx
  rw [InV_visit_iff] at hx ⊢
  exact hx.imp_left (h x)

theorem pot_mono {es : List (UC × UC)} {v1 v2 : List UC} (h : ∀ x, InV v1 x → InV v2 x)
    (q : List (UC × List UC)) : pot es v2 q ≤ pot es v1 q := by
  induction q with
  | nil => exact Nat.le_refl _
  | cons e q ih =>
    simp only [pot]
    exact Nat.add_le_add (wt_mono h _) ih

theorem pot_map_le {es : List (UC × UC)} {vis path : List UC} {u : Nat} (l : List UC)
    (h : ∀ a ∈ l, unvis es (visit vis a) ≤ u) :
    pot es vis (l.map (fun a => (a, path ++ [a]))) ≤ l.length * (es.length + 1) ^ u := by
  induction l with
  | nil => simp [pot]
  | cons a l ih =>
    have ih := ih (fun b hb => h b (List.mem_cons_of_mem _ hb))
    have ha : wt es vis a ≤ (es.length + 1) ^ u :=
      Nat.pow_le_pow_right (Nat.succ_pos _) (h a (by simp))
    simp only [List.map_cons, pot, List.length_cons, Nat.succ_mul]
    omega

theorem length_nexts_le (es : List (UC × UC)) (n : UC) (vis : List UC) :
    (nexts es n vis).length ≤ es.length :=
  Nat.le_trans (List.length_filter_le _ _) (length_adj_le es n)

theorem pot_nexts_lt {es : List (UC × UC)} (hr : EdgeRefl es) (node : UC) (path vis : List UC) :
    pot es (visit vis node) ((nexts es node vis).map (fun a => (a, path ++ [a]))) + 1 ≤
      (es.length + 1) ^ unvis es (visit vis node) := by
  have hlt : ∀ a ∈ nexts es node vis,
      unvis es (visit (visit vis node) a) < unvis es (visit vis node) := by
    intro a ha
    obtain ⟨ha1, ha2⟩ := mem_nexts.mp ha
    obtain ⟨e, he, _, rfl⟩ := mem_adj ha1
    exact unvis_lt (fun x hx => InV_visit_mono hx) he ha2 (InV_visit_self (hr e he))
  cases hu : unvis es (visit vis node) with
  | zero =>
    have hnil : nexts es node vis = [] :=
      List.eq_nil_iff_forall_not_mem.mpr fun a ha => by have := hlt a ha; omega
    rw [hnil]
    simp [pot]
  | succ u =>
    have h1 := pot_map_le (es := es) (vis := visit vis node) (path := path) (u := u)
      (nexts es node vis) (fun a ha => by have := hlt a ha; omega)
    have h2 := Nat.mul_le_mul_right ((es.length + 1) ^ u) (length_nexts_le es node vis)
    have h3 : 1 ≤ (es.length + 1) ^ u := Nat.pow_pos (Nat.succ_pos _)
    rw [Nat.pow_succ, Nat.mul_succ, Nat.mul_comm ((es.length + 1) ^ u) es.length]
    omega

theorem pot_step {es : List (UC × UC)} (hr : EdgeRefl es) (node : UC) (path : List UC)
    (rest : List (UC × List UC)) (vis : List UC) :
    pot es (visit vis node) (push rest path (nexts es node vis)) + 1 ≤
      pot es vis ((node, path) :: rest) := by
  unfold push
  rw [pot_append]
  have h1 := pot_mono (es := es) (v1 := vis) (v2 := visit vis node)
    (fun x hx => InV_visit_mono hx) rest
  have h2 := pot_nexts_lt hr node path vis
  simp only [pot, wt]
  omega

theorem bfsExhausts_false_of_pot {es : List (UC × UC)} (hr : EdgeRefl es) {t : UC}
    (fuel : Nat) (q : List (UC × List UC)) (vis : List UC) (h : pot es vis q < fuel) :
    bfsExhausts es t fuel q vis = false := by
  induction fuel, q, vis using bfsExhausts.induct es t with
  | case1 => exact bfsExhausts_nil ..
  | case2 => omega
  | case3 fuel node path rest vis a hf => rw [bfsExhausts_succ, hf]
  | case4 fuel node path rest vis hf ih =>
    rw [bfsExhausts_succ, hf]
    have := pot_step hr node path rest vis
    exact ih (by omega)

/-- the fuel of the model is never exhausted: `findShortestPath` is the unbounded Python loop
    (the hypothesis `hs` is not used) -/
theorem bfs_fuel_suffices {es : List (UC × UC)} (hr : EdgeRefl es) {s t : UC}
    (hs : s.beq s = true) : bfsExhausts es t (bfsFuel es) [(s, [s])] [] = false := by
  have _ := hs
  apply bfsExhausts_false_of_pot hr
  have h : wt es [] s ≤ (es.length + 1) ^ es.length :=
    Nat.pow_le_pow_right (Nat.succ_pos _) List.countP_le_length
  simp only [pot, bfsFuel]
  omega

theorem findShortestPath_none {es : List (UC × UC)} {s t : UC} (h : findShortestPath es s t = none) :
    s.beq t = false ∧ bfs es t (bfsFuel es) [(s, [s])] [] = none := by
  unfold findShortestPath at h
  split at h
  · cases h
  · next hst => exact ⟨Bool.eq_false_iff.mpr hst, h⟩

theorem bfs_none_unreachable {es : List (UC × UC)} (hr : EdgeRefl es) {s t : UC}
    (hs : s.beq s = true) (h : findShortestPath es s t = none)
    (hfuel : bfsExhausts es t (bfsFuel es) [(s, [s])] [] = false) :
    ¬ ∃ p, isPath es p = true ∧ p.head? = some s ∧
      (∃ l, p.getLast? = some l ∧ l.beq t = true) := by
  rintro ⟨p, hp, hh, l, hl, hlt⟩
  obtain ⟨hst, h⟩ := findShortestPath_none h
  exact Bool.eq_false_iff.mp
    (bfs_none_unreach hr (linv_init hs hst) h hfuel _ _ (reach_of_isPath hp hh hl)) hlt

/-- completeness: if the search fails, no walk leads from `s` to a node `==` `t` -/
theorem bfs_none_unreachable_full {es : List (UC × UC)} (hr : EdgeRefl es) {s t : UC}
    (hs : s.beq s = true) (h : findShortestPath es s t = none) :
    ¬ ∃ p, isPath es p = true ∧ p.head? = some s ∧
      (∃ l, p.getLast? = some l ∧ l.beq t = true) :=
  bfs_none_unreachable hr hs h (bfs_fuel_suffices hr hs)

/-- `none` means the start differs from the target and either the fuel or the queue was exhausted;
    the first alternative cannot occur (`bfs_fuel_suffices`), in the second the target is unreachable -/
theorem bfs_none_cases {es : List (UC × UC)} (hr : EdgeRefl es) {s t : UC}
    (hs : s.beq s = true) (h : findShortestPath es s t = none) :
    s.beq t = false ∧
    (bfsExhausts es t (bfsFuel es) [(s, [s])] [] = true ∨
      ¬ ∃ p, isPath es p = true ∧ p.head? = some s ∧
        (∃ l, p.getLast? = some l ∧ l.beq t = true)) :=
  ⟨(findShortestPath_none h).1, Or.inr (bfs_none_unreachable_full hr hs h)⟩

/-- if the loop finishes within `fuel`, its result does not depend on the fuel: it is the
    result of the unbounded Python loop -/
theorem bfs_fuel_mono {es : List (UC × UC)} {t : UC} (k : Nat) :
    ∀ (fuel : Nat) (q : List (UC × List UC)) (vis : List UC),
      bfsExhausts es t fuel q vis = false →
      bfs es t (fuel + k) q vis = bfs es t fuel q vis ∧
        bfsExhausts es t (fuel + k) q vis = false := by
  intro fuel q vis
  induction fuel, q, vis using bfsExhausts.induct es t with
  | case1 => exact fun _ => ⟨by rw [bfs_nil, bfs_nil], bfsExhausts_nil ..⟩
  | case2 => exact fun h => nomatch h
  | case3 fuel node path rest vis a hf =>
    rw [Nat.succ_add, bfs_succ, bfs_succ, bfsExhausts_succ, bfsExhausts_succ, hf]
    exact fun _ => ⟨rfl, rfl⟩
  | case4 fuel node path rest vis hf ih =>
    rw [Nat.succ_add, bfs_succ, bfs_succ, bfsExhausts_succ, bfsExhausts_succ, hf]
    exact ih

theorem edgeRefl_of_nodup {es : List (UC × UC)} (h : ∀ e ∈ es, (e.2.map (·.1)).Nodup) :
    EdgeRefl es := fun e he => UC.beq_refl (h e he)

end Pint.Ctx

section
open Pint.Ctx
#print axioms bfs_path
#print axioms bfs_shortest
#print axioms bfs_none_unreachable
#print axioms bfs_none_cases
#print axioms bfs_fuel_suffices
#print axioms bfs_none_unreachable_full
#print axioms bfs_fuel_mono
#print axioms edgeRefl_of_nodup
end
