import PintModel.Model.CachePolicy
/-! Transparency of a memo architecture that follows a covering policy (C13). -/
namespace Pint.CachePolicy

variable {κ ν : Type}

theorem mem_allComps (c : Comp) : c ∈ allComps := by cases c <;> decide

theorem mem_allTables (t : Table) : t ∈ memoTables ++ [Table.dimEquiv] := by cases t <;> decide

theorem covers_of_coversB {p : Policy} {dep : Comp → Table → Bool} (h : coversB p dep = true) : Covers p dep := by
  intro c t hd
  have := List.all_eq_true.mp (List.all_eq_true.mp h c (mem_allComps c)) t (mem_allTables t)
  simpa [hd] using this

theorem keyProj_eq {p : Policy} {t : Table} {s0 s : St} (h : keyProj p t s0 = keyProj p t s) :
    ∀ c, p.keyedBy c t = true → s0 c = s c := by
  intro c hk
  have := List.map_inj_left.mp h c (mem_allComps c)
  simpa [hk] using this

/-- every stored answer was computed in a state that agrees with the current one on all components the table depends on
    without being keyed by them -/
def Inv (p : Policy) (spec : Table → St → κ → ν) (dep : Comp → Table → Bool) (s : St) (m : Memos κ ν) : Prop :=
  ∀ t, ∀ e ∈ m t, ∃ s0 : St, e.v = spec t s0 e.k ∧ e.kp = keyProj p t s0 ∧
    ∀ c, dep c t = true → p.keyedBy c t = false → s0 c = s c

theorem inv_empty (p : Policy) (spec : Table → St → κ → ν) (dep) (s : St) : Inv p spec dep s (fun _ => []) := by
  intro t e he; cases he

theorem lookup_sound [DecidableEq κ] {p : Policy} {spec : Table → St → κ → ν} {dep} (hl : Local spec dep) {s : St} {m : Memos κ ν}
    (hi : Inv p spec dep s m) {t : Table} {k : κ} {v : ν} (h : lookup (m t) (keyProj p t s) k = some v) : v = spec t s k := by
  obtain ⟨e, hx, rfl⟩ := Option.map_eq_some_iff.mp h
  have hk := List.find?_some hx
  simp only [Bool.and_eq_true, decide_eq_true_eq] at hk
  obtain ⟨s0, hv, hkp, hag⟩ := hi t e (List.mem_of_find?_eq_some hx)
  rw [hv, hk.2]
  -- `s0`, where the entry was computed, agrees with `s` on every dependency: on the keyed ones by the key, on the others by `hi`
  refine hl t s0 s (fun c hd => ?_) k
  cases hkc : p.keyedBy c t with
  | true => exact keyProj_eq (hkp ▸ hk.1) c hkc
  | false => exact hag c hd hkc

theorem inv_store {p : Policy} {spec : Table → St → κ → ν} {dep} {s : St} {m : Memos κ ν}
    (hi : Inv p spec dep s m) (t : Table) (k : κ) : Inv p spec dep s (store m t ⟨keyProj p t s, k, spec t s k⟩) := by
  intro t' e he
  unfold store at he
  split at he
  · next htt =>
    subst htt
    rcases List.mem_cons.mp he with rfl | he
    · exact ⟨s, rfl, rfl, fun _ _ _ => rfl⟩
    · exact hi t' e he
  · exact hi t' e he

theorem inv_change {p : Policy} {spec : Table → St → κ → ν} {dep} (hc : Covers p dep) {s : St} {m : Memos κ ν}
    (hi : Inv p spec dep s m) (c : Comp) (v : Nat) : Inv p spec dep (s.set c v) (clear p c m) := by
  intro t e he
  unfold clear at he
  split at he
  · cases he
  · next hcl =>
    obtain ⟨s0, hv, hkp, hag⟩ := hi t e he
    refine ⟨s0, hv, hkp, fun c' hd hk => ?_⟩
    -- `t` depends on `c'` and is neither emptied by the change of `c` nor keyed by `c'`: a covering policy leaves `c' ≠ c`
    have hne : c' ≠ c := fun e => (hc c' t hd).elim (fun h => hcl (e ▸ h)) (fun h => by simp [hk] at h)
    simp only [St.set, hne, if_false]
    exact hag c' hd hk

/-- **any history, any covering policy**: every answer is the one the current declarative state implies -/
theorem run_transparent [DecidableEq κ] {p : Policy} {spec : Table → St → κ → ν} {dep : Comp → Table → Bool}
    (hc : Covers p dep) (hl : Local spec dep) (s : St) (m : Memos κ ν) (hi : Inv p spec dep s m) (ops : List (Op κ)) :
    run p spec s m ops = runSpec spec s ops := by
  induction ops generalizing s m with
  | nil => rfl
  | cons o ops ih =>
    cases o with
    | query t k =>
      simp only [run, runSpec]
      cases hlk : lookup (m t) (keyProj p t s) k with
      | some v =>
        simp only
        rw [lookup_sound hl hi hlk, ih s m hi]
      | none =>
        simp only
        rw [ih s _ (inv_store hi t k)]
    | change c v =>
      simp only [run, runSpec]
      exact ih _ _ (inv_change hc hi c v)

end Pint.CachePolicy
