/-
  Structural theorems about `Eval.build` / `Eval.buildEvalTree` (the port of pint's
  `_build_eval_tree`): the in-order yield of the returned tree is exactly the token sequence
  that was consumed (operands and operators, in order, nothing dropped, invented or reordered).

  Leaves and operators are the two projections of one yield (`Tree.items`, a list of `Item`s);
  one invariant of `build` about that yield (`Inv`, `build_inv`) gives both, and where the
  top-level call stops.
-/
import PintModel.Model.EvalTree
import PintModel.Gen.EvalTables
import PintModel.Proofs.DictLemmas

namespace Pint.Eval

/-- an element of the in-order yield of a tree (`Tree.items`) -/
inductive Item
  | operand (t : Token)
  | oper (s : String)
  deriving DecidableEq, Repr

def optOp : Option String → List Item
  | some s => [.oper s]
  | none => []

/-- in-order yield of a tree: leaf tokens and operator texts (implicit products are silent) -/
def Tree.items : Tree → List Item
  | .leaf t => [.operand t]
  | .unary op a => .oper op :: a.items
  | .binary l op r => l.items ++ optOp op ++ r.items

def optItems : Option Tree → List Item
  | some t => t.items
  | none => []

def Tree.leaves : Tree → List Token
  | .leaf t => [t]
  | .unary _ a => a.leaves
  | .binary l _ r => l.leaves ++ r.leaves

/-- operator texts in order, unary and binary; an implicit product contributes none -/
def Tree.ops : Tree → List String
  | .leaf _ => []
  | .unary op a => op :: a.ops
  | .binary l op r => l.ops ++ op.toList ++ r.ops

def isOperand (t : Token) : Bool := t.kind == .number || t.kind == .name

/-- an operator token that the parser turns into a node: kind `op`, not a parenthesis, and
    present in the priority table (other `op` tokens are a syntax error in `_build_eval_tree`; the
    pinned code skipped them: F51) -/
def isOperator (prio : Prio) (t : Token) : Bool :=
  t.kind == .op && t.text != ")" && t.text != "(" && (prioOf prio t.text).isSome

def operands (toks : List Token) : List Token := toks.filter isOperand

def operators (prio : Prio) (toks : List Token) : List String :=
  (toks.filter (isOperator prio)).map (·.text)

/-- what one token contributes to the yield -/
def tokItems (prio : Prio) (tok : Token) : List Item :=
  if isOperator prio tok then [.oper tok.text] else if isOperand tok then [.operand tok] else []

def Item.operand? : Item → Option Token
  | .operand t => some t
  | .oper _ => none

def Item.oper? : Item → Option String
  | .operand _ => none
  | .oper s => some s

@[simp] theorem Item.operand?_operand (t : Token) : Item.operand? (.operand t) = some t := rfl
@[simp] theorem Item.operand?_oper (s : String) : Item.operand? (.oper s) = none := rfl
@[simp] theorem Item.oper?_operand (t : Token) : Item.oper? (.operand t) = none := rfl
@[simp] theorem Item.oper?_oper (s : String) : Item.oper? (.oper s) = some s := rfl

theorem Tree.leaves_eq_items (t : Tree) : t.leaves = t.items.filterMap Item.operand? := by
  induction t with
  | leaf t => rfl
  | unary op a ih => simp [Tree.leaves, Tree.items, List.filterMap_cons, ih]
  | binary l op r ihl ihr =>
    cases op <;> simp [Tree.leaves, Tree.items, optOp, List.filterMap_cons, ihl, ihr]

theorem Tree.ops_eq_items (t : Tree) : t.ops = t.items.filterMap Item.oper? := by
  induction t with
  | leaf t => rfl
  | unary op a ih => simp [Tree.ops, Tree.items, ih]
  | binary l op r ihl ihr => cases op <;> simp [Tree.ops, Tree.items, optOp, ihl, ihr]

theorem tokItems_operand (prio : Prio) (tok : Token) :
    (tokItems prio tok).filterMap Item.operand? = if isOperand tok then [tok] else [] := by
  unfold tokItems
  split
  next h =>
    have : isOperand tok = false := by simp_all [isOperator, isOperand]
    simp [this]
  next => split <;> simp

theorem tokItems_oper (prio : Prio) (tok : Token) :
    (tokItems prio tok).filterMap Item.oper? = if isOperator prio tok then [tok.text] else [] := by
  unfold tokItems
  split
  next => simp
  next => split <;> simp

theorem operands_eq_items (prio : Prio) (l : List Token) :
    operands l = (l.flatMap (tokItems prio)).filterMap Item.operand? := by
  induction l with
  | nil => rfl
  | cons a l ih =>
    simp only [List.flatMap_cons, List.filterMap_append, ← ih, tokItems_operand, operands,
      List.filter_cons]
    split <;> simp

theorem operators_eq_items (prio : Prio) (l : List Token) :
    operators prio l = (l.flatMap (tokItems prio)).filterMap Item.oper? := by
  induction l with
  | nil => rfl
  | cons a l ih =>
    simp only [List.flatMap_cons, List.filterMap_append, ← ih, tokItems_oper, operators,
      List.filter_cons]
    split <;> simp

/-- the yield of the tokens at positions `a ≤ i < b` -/
def rangeItems (prio : Prio) (toks : Array Token) (a b : Nat) : List Item :=
  ((toks.toList.drop a).take (b - a)).flatMap (tokItems prio)

theorem rangeItems_self (prio : Prio) (toks : Array Token) (a : Nat) :
    rangeItems prio toks a a = [] := by
  simp [rangeItems]

theorem rangeItems_single {prio : Prio} {toks : Array Token} {a : Nat} {tok : Token}
    (h : toks[a]? = some tok) : rangeItems prio toks a (a + 1) = tokItems prio tok := by
  simp [rangeItems, List.take_one, h]

theorem rangeItems_append {prio : Prio} {toks : Array Token} {a b c : Nat}
    (hab : a ≤ b) (hbc : b ≤ c) :
    rangeItems prio toks a b ++ rangeItems prio toks b c = rangeItems prio toks a c := by
  unfold rangeItems
  rw [← Nat.sub_add_sub_cancel hbc hab, Nat.add_comm, List.take_add, List.flatMap_append,
    List.drop_drop, Nat.add_sub_cancel' hab]

/-- reading the tokens at `index … j` extends the yield `pre` to `post`, and only the last of them
    can be an end marker; `j = index - 1` when nothing was read -/
structure Inv (prio : Prio) (toks : Array Token) (index j : Nat) (pre post : List Item) : Prop where
  le : index ≤ j + 1
  items : post = pre ++ rangeItems prio toks index (j + 1)
  noEnd : ∀ i tk, index ≤ i → i < j → toks[i]? = some tk → tk.kind ≠ .endmarker

/-- the assumptions on the priority table under which the top-level call (`prev_op = None`,
    priority -1) can only stop at the end marker -/
structure PrioWF (prio : Prio) : Prop where
  none_absent : prioOf prio "<none>" = none
  nonneg : ∀ s p, prioOf prio s = some p → 0 ≤ p
  implicit : (prioOf prio "").isSome

/-- what `build … index … prevOp result = .ok (t, j)` guarantees: the yield of `t` is that of
    `result` followed by that of the tokens at `index … j`, and the top-level call stops at an end marker -/
def RecOK (prio : Prio) (toks : Array Token)
    (rec : Nat → Nat → String → Option Tree → Except PErr (Tree × Nat)) : Prop :=
  ∀ {index depth prevOp result t j}, rec index depth prevOp result = .ok (t, j) →
    (result.isSome → 0 < index) →
      Inv prio toks index j (optItems result) t.items ∧
      (PrioWF prio → prevOp = "<none>" → ∃ tk, toks[j]? = some tk ∧ tk.kind = .endmarker)

namespace Inv
variable {prio : Prio} {toks : Array Token} {index j k : Nat} {tok : Token} {pre mid post : List Item}

/-- "unread the current token": `return result, index - 1` -/
theorem unread (hpos : 0 < index) : Inv prio toks index (index - 1) pre pre := by
  refine ⟨by omega, ?_, fun i _ _ _ => by omega⟩
  rw [Nat.sub_add_cancel hpos, rangeItems_self, List.append_nil]

theorem here (htok : toks[index]? = some tok) : Inv prio toks index index pre (pre ++ tokItems prio tok) := by
  refine ⟨by omega, ?_, fun i _ _ _ => by omega⟩
  rw [rangeItems_single htok]

theorem frame (pre : List Item) (h : Inv prio toks index j [] post) :
    Inv prio toks index j pre (pre ++ post) :=
  ⟨h.le, by rw [h.items, List.nil_append], h.noEnd⟩

theorem trans (h1 : Inv prio toks index j pre mid) (htok : toks[j]? = some tok)
    (hne : tok.kind ≠ .endmarker) (h2 : Inv prio toks (j + 1) k mid post) :
    Inv prio toks index k pre post := by
  have := h1.le
  have := h2.le
  refine ⟨by omega, ?_, ?_⟩
  · rw [h2.items, h1.items, List.append_assoc, rangeItems_append h1.le h2.le]
  · intro i tk h3 h4 h5
    rcases Nat.lt_trichotomy i j with hi | rfl | hi
    · exact h1.noEnd i tk h3 hi h5
    · rw [htok] at h5; cases h5; exact hne
    · exact h2.noEnd i tk hi h4 h5

end Inv

theorem PrioWF.top {prio : Prio} (hp : PrioWF prio) :
    prioGet prio "<none>" = -1 ∧ 0 ≤ prioGet prio "" := by
  refine ⟨by simp [prioGet, hp.none_absent], ?_⟩
  have h := hp.implicit
  cases hq : prioOf prio "" with
  | none => simp [hq] at h
  | some p => simpa [prioGet, hq] using hp.nonneg _ _ hq

/-- what one pass through the token dispatch of `build` guarantees, by its outcome: on
    `return result, index` the invariant, and the call is not the top-level one; on falling through to
    the end of the loop body the invariant -/
def StepOK (prio : Prio) (toks : Array Token) (index : Nat) (prevOp : String) (result : Option Tree) :
    Except PErr Step → Prop
  | .error _ => True
  | .ok (.ret t j) =>
    Inv prio toks index j (optItems result) t.items ∧ (PrioWF prio → prevOp ≠ "<none>")
  | .ok (.cont res idx) => Inv prio toks index idx (optItems result) (optItems res)

section
-- the leaves of the case analysis in `build_inv` compare yields
attribute [local simp] StepOK tokItems isOperator isOperand bne optItems Tree.items optOp

theorem build_inv (prio : Prio) (toks : Array Token) (fuel : Nat) :
    RecOK prio toks (build prio toks fuel) := by
  induction fuel with
  | zero => intro index depth prevOp result t j h; cases h
  | succ fuel ih =>
    intro index depth prevOp result t j h hpos
    unfold build at h
    split at h
    · cases h
    rename_i tok htok
    -- `h` is now `(match stepRes with …) = .ok (t, j)`, `stepRes` being the token dispatch of the model
    extract_lets stepRes at h
    have key : StepOK prio toks index prevOp result stepRes := by
      have here := Inv.here (prio := prio) (pre := optItems result) htok
      unfold stepRes
      -- the dispatch is taken apart along its own nesting: an `if` by `iteInduction` (`split` would
      -- simplify the whole dispatch at every step), a `match` by `split`; every error leaf is `True`
      refine iteInduction (fun hop => ?_) (fun hop => ?_)
      · have hk : tok.kind = .op := by simpa using hop
        have hne : tok.kind ≠ .endmarker := by simp [hk]
        refine iteInduction (fun hclose => ?_) (fun hclose => ?_)
        · -- `)` closes the group or is unread
          refine iteInduction (fun _ => trivial) (fun hprev => ?_)
          have hsub : PrioWF prio → prevOp ≠ "<none>" := fun _ hn => hprev (by simp [hn])
          split
          next => exact trivial
          next r =>
            refine iteInduction (fun _ => ?_) (fun _ => ?_)
            · exact ⟨by simpa [hk, hclose] using here, hsub⟩
            · exact ⟨Inv.unread (hpos rfl), hsub⟩
        refine iteInduction (fun hopen => ?_) (fun hopen => ?_)
        · split
          next r =>
            -- `r (`: unread, or the right operand of an implicit product starts here
            refine iteInduction (fun hc => ?_) (fun _ => ?_)
            · refine ⟨Inv.unread (hpos rfl), fun hp hn => ?_⟩
              subst hn; have := hp.top; simp at hc; omega
            · split
              next => exact trivial
              next right idx hb => simpa using (ih hb (by simp)).1.frame _
          next =>
            -- `(` first: the current token, then the group behind it
            split
            next => exact trivial
            next right idx hb =>
              refine iteInduction (fun _ => trivial) (fun _ => ?_)
              simpa [hk, hclose, hopen] using here.trans htok hne ((ih hb (by simp)).1.frame _)
        · split
          next p hq =>
            split
            next r =>
              -- a binary operator: unread, or the current token, then its right operand
              refine iteInduction (fun hc => ?_) (fun _ => ?_)
              · refine ⟨Inv.unread (hpos rfl), fun hp hn => ?_⟩
                subst hn; have := hp.top; have := hp.nonneg _ _ hq; simp at hc; omega
              · split
                next => exact trivial
                next right idx hb =>
                  simpa [hk, hclose, hopen, hq] using here.trans htok hne ((ih hb (by simp)).1.frame _)
            next =>
              -- a unary operator
              split
              next => exact trivial
              next right idx hb =>
                simpa [hk, hclose, hopen, hq] using here.trans htok hne ((ih hb (by simp)).1.frame _)
          next => exact trivial
      · refine iteInduction (fun _ => trivial) (fun _ => ?_)
        refine iteInduction (fun hnum => ?_) (fun hnum => ?_)
        · split
          next r =>
            -- an operand after `r` is like `r (`
            refine iteInduction (fun hc => ?_) (fun _ => ?_)
            · refine ⟨Inv.unread (hpos rfl), fun hp hn => ?_⟩
              subst hn; have := hp.top; omega
            · split
              next => exact trivial
              next right idx hb => simpa using (ih hb (by simp)).1.frame _
          next => simpa [hop, hnum] using here
        · simpa [hop, hnum] using here
    clear_value stepRes
    split at h
    next => cases h
    next =>
      cases h
      exact ⟨key.1, fun hp hn => absurd hn (key.2 hp)⟩
    next res idx =>
      split at h
      next => cases h
      next t2 ht2 =>
        split at h
        next hend =>
          split at h
          next => cases h
          next =>
            split at h
            next =>
              cases h
              exact ⟨key, fun _ _ => ⟨t2, ht2, by simpa using hend⟩⟩
            next => cases h
        next hne =>
          split at h
          next => cases h
          next =>
            have ht := ih h (by simp)
            exact ⟨key.trans ht2 (by simpa using hne) ht.1, ht.2⟩

end

/-- no end marker is stepped over -/
theorem build_noEnd {prio : Prio} {toks : Array Token} {fuel index depth : Nat} {prevOp : String}
    {result : Option Tree} {t : Tree} {j : Nat}
    (hpos : result.isSome → 0 < index)
    (h : build prio toks fuel index depth prevOp result = .ok (t, j)) :
    ∀ i tk, index ≤ i → i < j → toks[i]? = some tk → tk.kind ≠ .endmarker :=
  (build_inv prio toks fuel h hpos).1.noEnd

theorem prioWF_of_all {prio : Prio} (h1 : prioOf prio "<none>" = none)
    (h2 : ∀ e ∈ prio, 0 ≤ e.2) (h3 : (prioOf prio "").isSome) : PrioWF prio :=
  ⟨h1, fun s p hs => h2 (s, p) (Dict.mem_of_find? ((Dict.map_find?_eq prio s).symm.trans hs)), h3⟩

def beforeEnd (toks : List Token) : List Token := toks.takeWhile (fun t => t.kind != .endmarker)

theorem beforeEnd_eq_take {toks : List Token} {j : Nat} {tk : Token}
    (hj : toks[j]? = some tk) (hk : tk.kind = .endmarker)
    (hno : ∀ i tk', i < j → toks[i]? = some tk' → tk'.kind ≠ .endmarker) :
    beforeEnd toks = toks.take j := by
  obtain ⟨hlt, rfl⟩ := List.getElem?_eq_some_iff.mp hj
  rw [beforeEnd, List.takeWhile_eq_take_findIdx_not, (List.findIdx_eq hlt).mpr
    ⟨by simp [hk], fun i hi => by simpa using hno i _ hi (List.getElem?_eq_getElem _)⟩]

theorem beforeEnd_append_eof {body : List Token} {eof : Token}
    (hbody : ∀ tk ∈ body, tk.kind ≠ .endmarker) (heof : eof.kind = .endmarker) :
    beforeEnd (body ++ [eof]) = body := by
  rw [beforeEnd, List.takeWhile_append_of_pos (by simpa using hbody)]
  simp [heof]

/-- `buildEvalTree` is `build` from position 0 with `prev_op = None` and nothing parsed yet -/
theorem buildEvalTree_inv {prio : Prio} {toks : List Token} {t : Tree}
    (h : buildEvalTree prio toks = .ok t) :
    ∃ j, Inv prio toks.toArray 0 j [] t.items ∧
      (PrioWF prio → ∃ tk, toks[j]? = some tk ∧ tk.kind = .endmarker) := by
  unfold buildEvalTree at h
  simp only at h
  split at h
  · rename_i t' j hb
    cases h
    have hi := build_inv prio toks.toArray _ hb (by simp)
    exact ⟨j, hi.1, fun hp => by simpa using hi.2 hp rfl⟩
  · cases h

/-- without `PrioWF` the top-level call can stop early, but the yield of the tree is still that of a
    non-empty prefix of the token list -/
theorem buildEvalTree_items_prefix {prio : Prio} {toks : List Token} {t : Tree}
    (h : buildEvalTree prio toks = .ok t) :
    ∃ j, t.items = (toks.take (j + 1)).flatMap (tokItems prio) := by
  obtain ⟨j, hi, _⟩ := buildEvalTree_inv h
  exact ⟨j, by simpa [rangeItems] using hi.items⟩

theorem buildEvalTree_items {prio : Prio} (hp : PrioWF prio) {toks : List Token} {t : Tree}
    (h : buildEvalTree prio toks = .ok t) :
    t.items = (beforeEnd toks).flatMap (tokItems prio) := by
  obtain ⟨j, hi, hend⟩ := buildEvalTree_inv h
  obtain ⟨tk, hj, hk⟩ := hend hp
  have hno : ∀ i tk', i < j → toks[i]? = some tk' → tk'.kind ≠ .endmarker :=
    fun i tk' hij h => hi.noEnd i tk' (by omega) hij (by simpa using h)
  rw [beforeEnd_eq_take hj hk hno, hi.items]
  simp [rangeItems, List.take_add_one, hj, tokItems, isOperator, isOperand, hk]

theorem buildEvalTree_leaves {prio : Prio} (hp : PrioWF prio) {toks : List Token} {t : Tree}
    (h : buildEvalTree prio toks = .ok t) :
    t.leaves = operands (beforeEnd toks) := by
  rw [Tree.leaves_eq_items, buildEvalTree_items hp h, operands_eq_items]

theorem buildEvalTree_ops {prio : Prio} (hp : PrioWF prio) {toks : List Token} {t : Tree}
    (h : buildEvalTree prio toks = .ok t) :
    t.ops = operators prio (beforeEnd toks) := by
  rw [Tree.ops_eq_items, buildEvalTree_items hp h, operators_eq_items]

/-- for a token list whose only end marker is its last token, `beforeEnd` drops out of `buildEvalTree_leaves` -/
theorem buildEvalTree_leaves_eof {prio : Prio} (hp : PrioWF prio) {body : List Token} {eof : Token}
    {t : Tree} (hbody : ∀ tk ∈ body, tk.kind ≠ .endmarker) (heof : eof.kind = .endmarker)
    (h : buildEvalTree prio (body ++ [eof]) = .ok t) :
    t.leaves = operands (body ++ [eof]) := by
  rw [buildEvalTree_leaves hp h, beforeEnd_append_eof hbody heof]
  simp [operands, isOperand, heof]

/-- … and out of `buildEvalTree_ops` -/
theorem buildEvalTree_ops_eof {prio : Prio} (hp : PrioWF prio) {body : List Token} {eof : Token}
    {t : Tree} (hbody : ∀ tk ∈ body, tk.kind ≠ .endmarker) (heof : eof.kind = .endmarker)
    (h : buildEvalTree prio (body ++ [eof]) = .ok t) :
    t.ops = operators prio (body ++ [eof]) := by
  rw [buildEvalTree_ops hp h, beforeEnd_append_eof hbody heof]
  simp [operators, isOperator, heof]

private def T (k : TokKind) (s : String) : Token := ⟨k, s⟩

/-- `-a * (b + 2) c`: `buildEvalTree_leaves` and `buildEvalTree_ops` on a concrete token list -/
example :
    let toks := [T .op "-", T .name "a", T .op "*", T .op "(", T .name "b", T .op "+", T .number "2",
      T .op ")", T .name "c", T .other "", T .endmarker ""]
    (buildEvalTree Gen.opPriority toks).toOption.map (fun t => (t.leaves, t.ops))
      = some (operands toks, operators Gen.opPriority toks) ∧
    operands toks = [T .name "a", T .name "b", T .number "2", T .name "c"] ∧
    operators Gen.opPriority toks = ["-", "*", "+"] := by decide +kernel

/-- the side condition `result.isSome → 0 < index` of `build_inv` cannot be dropped: at
    index 0 the "unread" return `index - 1` truncates to 0 and the token at 0 is lost -/
example :
    (build Gen.opPriority #[T .name "a", T .endmarker ""] 1 0 0 "" (some (.leaf (T .name "x")))).toOption
      = some (.leaf (T .name "x"), 0) := by decide +kernel

end Pint.Eval
