/-
  Non-vacuity of the hypotheses of `QtyLemmas` (`Good`, `RootGood`, `WFintOn`) on the bundled registry: a sum, an
  equality, a comparison and a floor division of miles and feet through the general theorems, and the conversion factor
  mile → foot through `C02_factor`.
-/
import PintModel.Proofs.QtyLemmas
import PintModel.Props.C02
import PintModel.Props.C03
import PintModel.Props.C05

namespace Pint.QtyExamples
open Pint Pint.UC Pint.Registry Pint.Props

abbrev R0 := Gen.defaultRegistry
abbrev S0 : String → Prop := fun k => k ∈ Gen.exactNames

/-- evaluated together: the kernel pays for walking the keys of the table once per declaration -/
theorem checks :
    goodUB R0 Gen.exactNames [("mile", 1)] (mkRat 201168 125) [("meter", 1)] [("[length]", 1)] = true ∧
    goodUB R0 Gen.exactNames [("foot", 1)] (mkRat 381 1250) [("meter", 1)] [("[length]", 1)] = true ∧
    goodUB R0 Gen.exactNames [("meter", 1)] 1 [("meter", 1)] [("[length]", 1)] = true := by
  decide +kernel

theorem good_mile : GoodU R0 S0 [("mile", 1)] (mkRat 201168 125) [("meter", 1)] [("[length]", 1)] :=
  .of_B checks.1

theorem good_foot : GoodU R0 S0 [("foot", 1)] (mkRat 381 1250) [("meter", 1)] [("[length]", 1)] :=
  .of_B checks.2.1

theorem rootGood_meter : RootGood R0 S0 [("meter", 1)] [("[length]", 1)] :=
  ⟨_, _, .of_B checks.2.2, by decide +kernel⟩

theorem _root_.Pint.GoodU.exact {R : Registry} {S : String → Prop} {a ua da : UC} {fa : Rat} (h : GoodU R S a fa ua da) :
    C02.Exact R S a fa ua := ⟨h.int, h.keys, h.canon.1, h.root⟩

set_option maxRecDepth 100000 in
/-- non-vacuity: 1 mile → foot is exactly 5280, through `C02_factor` -/
example : Gen.defaultRegistry.convFactor [("mile", 1)] [("foot", 1)] = .ok 5280 :=
  (C02.C02_factor R0 C02.C02_default_wfint good_mile.exact good_foot.exact good_mile.dim good_foot.dim
    (by decide +kernel)).trans (congrArg Except.ok (by decide +kernel))

example (m : Mode) : ∃ c fc, R0.addSub m .add ⟨1, [("mile", 1)]⟩ (.q ⟨1, [("foot", 1)]⟩) = .ok c ∧
    (c.units = [("mile", 1)] ∧ fc = mkRat 201168 125 ∨ c.units = [("foot", 1)] ∧ fc = mkRat 381 1250) ∧
    c.mag * fc = AddOp.add.app (1 * mkRat 201168 125) (1 * mkRat 381 1250) :=
  C03.C03_add_value C02.C02_default_wfint m .add (a := ⟨1, _⟩) (b := ⟨1, _⟩) good_mile good_foot
    (by decide +kernel)

example (m : Mode) : R0.qeq m ⟨1, [("mile", 1)]⟩ (.q ⟨5280, [("foot", 1)]⟩) = .ok true := by
  rw [qeq_char C02.C02_default_wfint m (a := ⟨1, _⟩) (b := ⟨5280, _⟩) good_mile good_foot]
  congr 1
  decide +kernel

example (m : Mode) : R0.compare m .gt ⟨1, [("mile", 1)]⟩ (.q ⟨1, [("foot", 1)]⟩) = .ok true := by
  rw [C05.C05_order_spec C02.C02_default_wfint m .gt (a := ⟨1, _⟩) (b := ⟨1, _⟩) good_mile good_foot
    (by decide +kernel) (by decide +kernel) rootGood_meter rootGood_meter]
  congr 1
  decide +kernel

example (m : Mode) : R0.floordiv m ⟨7, [("mile", 1)]⟩ (.q ⟨2, [("foot", 1)]⟩) = .ok ⟨18480, []⟩ := by
  rw [floordiv_phys C02.C02_default_wfint m (a := ⟨7, _⟩) (b := ⟨2, _⟩) good_mile good_foot
    (by decide +kernel) (by decide +kernel)]
  congr 2
  decide +kernel

end Pint.QtyExamples
