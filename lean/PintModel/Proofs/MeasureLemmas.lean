/-
  The absolute value `absR` of the measurement model (`Model/Measure.lean`) is multiplicative and
  idempotent; the digits in parentheses of `n(s)` are right-aligned with those of `n` (`rjustZero`).
-/
import PintModel.Model.Measure

namespace Pint.Meas
open Pint Pint.Eval

theorem absR_nonneg (x : Rat) : 0 ≤ absR x := by
  unfold absR; split <;> grind

theorem absR_mul (x y : Rat) : absR (x * y) = absR x * absR y := by
  unfold absR
  split <;> split <;> split
  · have := @Rat.mul_nonneg (-x) (-y) (by grind) (by grind); grind
  · grind
  · grind
  · have := @Rat.mul_nonneg x y (by grind) (by grind); grind
  · grind
  · have := @Rat.mul_nonneg (-x) y (by grind) (by grind); grind
  · have := @Rat.mul_nonneg x (-y) (by grind) (by grind); grind
  · grind

theorem absR_absR (x : Rat) : absR (absR x) = absR x := by
  unfold absR; split <;> grind

theorem absR_eq_zero {x : Rat} (h : absR x = 0) : x = 0 := by
  unfold absR at h; split at h <;> grind

theorem absR_inv (x : Rat) : absR x⁻¹ = (absR x)⁻¹ := by
  by_cases hx : x = 0
  · subst hx; simp [absR]
  · have h1 : absR x ≠ 0 := fun h => hx (absR_eq_zero h)
    have h2 : absR x⁻¹ * absR x = 1 := by
      rw [← absR_mul, Rat.inv_mul_cancel x hx]; decide
    have := Rat.inv_eq_of_mul_eq_one (a := absR x) (b := absR x⁻¹) (by rw [Rat.mul_comm]; exact h2)
    exact this.symm

theorem isNumOrNan_of {n : Token} (hn : n.kind = .number) : isNumOrNan n = true := by
  simp [isNumOrNan, hn]

theorem rjustZero_length_ge (l : List Char) (n : Nat) : n ≤ (rjustZero l n).length := by
  simp [rjustZero]; omega

theorem rjustZero_filter (l : List Char) (n : Nat) (h : l.contains '.' = false) :
    (rjustZero l n).filter (· != '.') = rjustZero l n := by
  rw [List.filter_eq_self]
  intro a ha
  simp only [rjustZero, List.mem_append, List.mem_replicate] at ha
  rcases ha with ha | ha
  · rw [ha.2]; decide
  · have : a ≠ '.' := by
      intro h'; subst h'
      simp at h; exact h ha
    simpa using this

theorem parenMant_explicit (nominal std : String) (h : std.toList.contains '.' = true) : parenMant nominal std = std := by
  unfold parenMant; simp only [h, if_true]

end Pint.Meas
