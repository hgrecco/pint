/-
  Soundness of the inversion of a system rule `new : old` (`System.from_definition`, modelled by
  `GS.systemRule`): if the root unit `old` has the exponent a in the root expansion of `new`, the expression
  written for `old` — `new` to the power 1/a times the other root units of that expansion, each to the power
  -e/a for its exponent e — expands back to `old`.
-/
import PintModel.Model.GroupSys
import PintModel.Proofs.UCLemmas

namespace Pint.GS
open Pint Pint.Fmt.DenoteLemmas

/-- exponent of the root unit `k` in the root expansion of `repl`, when the unit `new` expands to `exp`
    (a container of root units) and every other key of `repl` is a root unit itself -/
def expoIn (repl : UC) (new : String) (exp : UC) (k : String) : Rat :=
  (repl.map fun p => if p.1 = new then p.2 * exp.get k else if p.1 = k then p.2 else 0).foldl (· + ·) 0

/-- the inversion written by `systemRule` for the long form -/
def invertLong (exp : UC) (new old : String) : UC :=
  ((exp.filter (fun p => p.1 != old)).map fun p => (p.1, -p.2 / exp.get old)) ++ [(new, 1 / exp.get old)]

/-- the fold `expoIn` sums with, by name (the proofs go through `List.sum`, `List.sum_eq_foldl`) -/
def sumL (l : List Rat) : Rat := l.foldl (· + ·) 0

theorem sumL_nil : sumL [] = 0 := rfl

theorem expoIn_eq (repl : UC) (new : String) (exp : UC) (k : String) :
    expoIn repl new exp k
      = sumGet repl new * exp.get k + (if k = new then 0 else sumGet repl k) := by
  rw [expoIn, ← List.sum_eq_foldl]
  induction repl with
  | nil => simp [Rat.zero_mul, Rat.add_zero]
  | cons p t ih =>
    obtain ⟨k0, v⟩ := p
    rw [List.map_cons, List.sum_cons, ih, sumGet_cons, sumGet_cons]
    grind

theorem sumGet_invertLong (exp : UC) (new old k : String) :
    sumGet (invertLong exp new old) k
      = (if k = old then 0 else -sumGet exp k / exp.get old)
        + (if new = k then 1 / exp.get old else 0) := by
  have : (fun p : String × Rat => (p.1, -p.2 / exp.get old))
      = fun p => (p.1, -(exp.get old)⁻¹ * p.2) := by
    funext p; rw [Rat.div_def, Rat.neg_mul, Rat.neg_mul, Rat.mul_comm]
  rw [invertLong, sumGet_append, this, sumGet_map_mul, sumGet_filter_ne, sumGet_cons, sumGet_nil,
    Rat.add_zero]
  split <;> simp [Rat.div_def, Rat.neg_mul, Rat.mul_neg, Rat.mul_comm]

theorem invertLong_sound (exp : UC) (new old : String) (hn : (exp.map (·.1)).Nodup)
    (ha : exp.get old ≠ 0) (hnew : new ∉ exp.map (·.1)) (k : String) :
    expoIn (invertLong exp new old) new exp k = if k = old then 1 else 0 := by
  have h0 : exp.get new = 0 := UC.get_eq_zero_of_not_mem_keys hnew
  have hne : new ≠ old := fun e => ha (e ▸ h0)
  rw [expoIn_eq, sumGet_invertLong, sumGet_invertLong, sumGet_eq_get hn, sumGet_eq_get hn, h0]
  have := Rat.mul_inv_cancel _ ha
  by_cases hk : k = old
  · subst hk; simp [hne, Rat.div_def]; grind
  · by_cases hk' : k = new
    · subst hk'; simp [hk, h0, Rat.div_def, Rat.mul_zero, Rat.add_zero]
    · simp [hk, hk', hne, Ne.symm hk', Rat.div_def]; grind

/-- the short form (`old` omitted): `new` expands to `old ^ value`, and `new ^ (1/value)` is written for `old`;
    it is the long form for the one-entry expansion `[(old, value)]` -/
theorem invertShort_sound (new old : String) (value : Rat) (hv : value ≠ 0) (hne : new ≠ old) (k : String) :
    expoIn [(new, 1 / value)] new [(old, value)] k = if k = old then 1 else 0 := by
  rw [show [(new, 1 / value)] = invertLong [(old, value)] new old by simp [invertLong, UC.get]]
  exact invertLong_sound [(old, value)] new old (by simp) (by simpa [UC.get] using hv) (by simpa using hne) k

theorem systemRule_long {R : Registry} {new old : String} {o : String} {repl : UC}
    (h : systemRule R (new, some old) = .ok (o, repl)) :
    ∃ exp, R.getRootUnitsOnly [(new, 1)] = .ok exp ∧ o = old ∧ repl = invertLong exp new old ∧ exp.has old = true := by
  unfold systemRule at h
  grind [invertLong]

theorem systemRule_short {R : Registry} {new : String} {o : String} {repl : UC}
    (h : systemRule R (new, none) = .ok (o, repl)) :
    ∃ value, R.getRootUnitsOnly [(new, 1)] = .ok [(o, value)] ∧ value ≠ 0 ∧ repl = [(new, 1 / value)] := by
  unfold systemRule at h
  grind

end Pint.GS
