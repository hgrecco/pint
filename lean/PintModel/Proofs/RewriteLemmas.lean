/-
  The unit-rewriting helpers (`Model/Rewrite.lean`): every helper ends in `Rw.to` (`to_ok`); the merge
  loop of `_get_reduced_units` skips or merges and stops (`reduceInner_cons`), so keys only shrink;
  the exact `⌊log₁₀⌋` lies between two powers of ten (`floorLog10_bounds`); the prefix table is sorted.
-/
import PintModel.Model.Rewrite
import PintModel.Proofs.UCLemmas

namespace Pint.Rw
open Pint Pint.UC Pint.Registry

/-- every helper ends in the `match` that is `quantity.to(dst)` -/
theorem to_ok {R : Registry} {m : Mode} {q q' : Qty} {dst : UC} (h : Rw.to R m q dst = .ok q') :
    q'.units = dst ∧ R.convertTo m q dst = .ok q'.mag := by
  unfold Rw.to at h
  split at h
  · cases h; exact ⟨rfl, ‹_›⟩
  · cases h

theorem has_iff_mem_keys (u : UC) (k : String) : u.has k = true ↔ k ∈ u.keys := by
  fun_induction has u k <;> grind [keys]

theorem mem_keys_del {u : UC} {k x : String} : x ∈ (u.del k).keys ↔ x ∈ u.keys ∧ x ≠ k := by
  fun_induction del u k <;> grind [keys]

/-- one merge step: `add` on a present key always succeeds, `remove [u1]` deletes `u1` -/
theorem merge_step {units : UC} {u1 u2 : String} (h1 : u1 ∈ units.keys) (h2 : u2 ∈ units.keys)
    (hne : ¬ (u1 == u2) = true) (v : Rat) :
    ∃ added, units.add u2 v = some added ∧ added.remove [u1] = some (added.del u1) ∧
      ∀ x, x ∈ (added.del u1).keys → x ∈ units.keys ∧ x ≠ u1 := by
  have hne' : u1 ≠ u2 := fun e => hne (by simp [e])
  -- whichever branch `add` takes (delete `u2` or overwrite it), `u1` stays and no key is new
  suffices h : ∃ added, units.add u2 v = some added ∧ u1 ∈ added.keys ∧
      ∀ x ∈ added.keys, x ∈ units.keys by
    obtain ⟨added, ha, hm, hs⟩ := h
    refine ⟨added, ha, by simp [UC.remove, (has_iff_mem_keys _ _).mpr hm], fun x hx => ?_⟩
    exact ⟨hs x (mem_keys_del.mp hx).1, (mem_keys_del.mp hx).2⟩
  unfold UC.add
  simp only [(has_iff_mem_keys _ _).mpr h2, if_true]
  split
  · exact ⟨_, rfl, mem_keys_del.mpr ⟨h1, hne'⟩, fun x hx => (mem_keys_del.mp hx).1⟩
  · exact ⟨_, rfl, by rwa [keys_set, if_pos h2], fun x hx => by rwa [keys_set, if_pos h2] at hx⟩

/-- the inner loop either skips its head (a partner that is `u1` itself or has no non-zero ratio) or
    merges `u1` into it and stops -/
theorem reduceInner_cons (ratio : String → String → Option Rat) (units : UC) (u1 u2 : String)
    (rest : List String) :
    (reduceInner ratio units u1 (u2 :: rest) = reduceInner ratio units u1 rest ∧
      (u2 ≠ u1 → ratio u1 u2 = none ∨ ratio u1 u2 = some 0)) ∨
    (¬ (u1 == u2) = true ∧ ∃ p, reduceInner ratio units u1 (u2 :: rest) =
      match units.add u2 (units.get u1 / p) with
      | some added => (match added.remove [u1] with | some r => r | none => added)
      | none => units) := by
  grind [reduceInner]

theorem reduceInner_spec (ratio : String → String → Option Rat) (units : UC) (u1 : String)
    (h1 : u1 ∈ units.keys) (l : List String) (hl : ∀ x ∈ l, x ∈ units.keys) :
    ((∀ x ∈ (reduceInner ratio units u1 l).keys, x ∈ units.keys) ∧
        u1 ∉ (reduceInner ratio units u1 l).keys) ∨
    (reduceInner ratio units u1 l = units ∧
        ∀ b ∈ l, b ≠ u1 → ratio u1 b = none ∨ ratio u1 b = some 0) := by
  induction l with
  | nil => right; exact ⟨rfl, fun _ h => by cases h⟩
  | cons u2 rest ih =>
    rcases reduceInner_cons ratio units u1 u2 rest with ⟨e, hs⟩ | ⟨hne, p, e⟩
    · rw [e]
      refine (ih (fun x hx => hl x (List.mem_cons_of_mem _ hx))).imp id
        (fun ih' => ⟨ih'.1, fun b hb hne => ?_⟩)
      rcases List.mem_cons.mp hb with rfl | hb
      · exact hs hne
      · exact ih'.2 b hb hne
    · obtain ⟨added, ha, hr, hk⟩ :=
        merge_step h1 (hl u2 List.mem_cons_self) hne (units.get u1 / p)
      rw [e, ha]
      simp only [hr]
      exact Or.inl ⟨fun x hx => (hk x hx).1, fun hx => (hk u1 hx).2 rfl⟩

theorem reduceOuter_spec (ratio : String → String → Option Rat) (rest : List String) (cur : UC) :
    (∀ x ∈ (reduceOuter ratio rest cur).keys, x ∈ cur.keys) ∧
    (∀ a ∈ rest, a ∈ (reduceOuter ratio rest cur).keys →
      ∀ b ∈ (reduceOuter ratio rest cur).keys, a ≠ b → ratio a b = none ∨ ratio a b = some 0) := by
  induction rest generalizing cur with
  | nil => exact ⟨fun _ h => h, fun _ h => by cases h⟩
  | cons u1 rest ih =>
    -- keys only shrink: a `u1` that is absent or merged away stays away, and a `u1` left in place has
    -- been compared with every key that can survive
    unfold reduceOuter
    split
    · next hhas =>
      have hnot : u1 ∉ cur.keys := fun h => by
        rw [(has_iff_mem_keys _ _).mpr h] at hhas; simp at hhas
      obtain ⟨i1, i2⟩ := ih cur
      refine ⟨i1, fun a ha hfin => ?_⟩
      rcases List.mem_cons.mp ha with ha | ha
      · exact absurd (i1 a hfin) (ha ▸ hnot)
      · exact i2 a ha hfin
    · next hhas =>
      have h1 : u1 ∈ cur.keys := (has_iff_mem_keys _ _).mp (by simpa using hhas)
      obtain ⟨i1, i2⟩ := ih (reduceInner ratio cur u1 cur.keys)
      have hspec := reduceInner_spec ratio cur u1 h1 cur.keys (fun _ h => h)
      have hsub : ∀ x ∈ (reduceInner ratio cur u1 cur.keys).keys, x ∈ cur.keys := by
        rcases hspec with h | h
        · exact h.1
        · rw [h.1]; exact fun _ h => h
      refine ⟨fun x hx => hsub x (i1 x hx), fun a ha hfin => ?_⟩
      rcases List.mem_cons.mp ha with rfl | ha
      · rcases hspec with h | h
        · exact absurd (i1 a hfin) h.2
        · exact fun b hb hne => h.2 b (hsub b (i1 b hb)) (Ne.symm hne)
      · exact i2 a ha hfin

theorem natLog10_spec (n : Nat) (hn : 0 < n) : 10 ^ natLog10 n ≤ n ∧ n < 10 ^ (natLog10 n + 1) := by
  fun_induction natLog10 n with
  | case1 n h => simp; omega
  | case2 n h ih =>
    have := ih (by omega)
    simp only [Nat.pow_succ] at this ⊢
    omega

/-- `pow10` is the integer power of ten of core `Rat`; its laws are read off that -/
theorem pow10_eq (e : Int) : pow10 e = (10 : Rat) ^ e := by
  unfold pow10
  split
  · next h =>
    rw [Rat.natCast_pow, ← Rat.zpow_natCast]
    congr 1; omega
  · next h =>
    rw [Rat.natCast_pow, ← Rat.zpow_natCast, Rat.div_def, Rat.one_mul, ← Rat.zpow_neg]
    congr 1; omega

theorem pow10_natCast (n : Nat) : pow10 (n : Int) = ((10^n:Nat):Rat) := by
  rw [pow10_eq, Rat.zpow_natCast, Rat.natCast_pow]; rfl

theorem pow10_add (e f : Int) : pow10 (e + f) = pow10 e * pow10 f := by
  simp only [pow10_eq]; exact Rat.zpow_add (by decide) e f

theorem pow10_pos (e : Int) : 0 < pow10 e := by
  rw [pow10_eq]; exact Rat.zpow_pos (by decide)

theorem pow10_mono {e f : Int} (h : e ≤ f) : pow10 e ≤ pow10 f := by
  obtain ⟨n, rfl⟩ := Int.le.dest h
  rw [pow10_add, pow10_natCast]
  have h1 : (1 : Rat) ≤ ((10 ^ n : Nat) : Rat) := by
    exact_mod_cast (Nat.pow_pos (by decide) : 1 ≤ 10 ^ n)
  simpa only [Rat.mul_one] using Rat.mul_le_mul_of_nonneg_left h1 (Rat.le_of_lt (pow10_pos e))

theorem rat_mul_den (q : Rat) : q * (q.den : Rat) = (q.num : Rat) := by
  have hd : (q.den : Rat) ≠ 0 := by exact_mod_cast q.den_nz
  calc q * q.den = q.num / q.den * q.den := by rw [← Rat.mkRat_eq_div, Rat.mkRat_self]
    _ = q.num := Rat.div_mul_cancel hd

theorem rat_num_pos {q : Rat} (h : 0 < q) : 0 < q.num := by
  simpa using (Rat.lt_iff 0 q).mp h

/-- with `a`, `b` the digit counts (less one) of numerator and denominator, `q` lies strictly between
    `10^(a-b-1)` and `10^(a-b+1)`: its floor logarithm is `a-b-1` or `a-b`, and the first comparison of
    `floorLog10` decides which (its second one, against `10^(a-b+1)`, never succeeds) -/
theorem floorLog10_bounds {q : Rat} (h : 0 < q) :
    pow10 ((natLog10 q.num.natAbs : Int) - (natLog10 q.den : Int) - 1) < q ∧
    q < pow10 ((natLog10 q.num.natAbs : Int) - (natLog10 q.den : Int) + 1) := by
  have hnum : 0 < q.num := rat_num_pos h
  obtain ⟨n1, n2⟩ := natLog10_spec _ (by omega : 0 < q.num.natAbs)
  obtain ⟨d1, d2⟩ := natLog10_spec _ q.den_pos
  have hqd : q * (q.den : Rat) = ((q.num.natAbs : Nat) : Rat) := by
    rw [rat_mul_den, ← Rat.intCast_natCast]; congr 1; omega
  generalize q.num.natAbs = n at *
  generalize q.den = d at *
  generalize natLog10 n = a at *
  generalize natLog10 d = b at *
  have n1' : pow10 a ≤ (n : Rat) := pow10_natCast a ▸ Rat.natCast_le_natCast.mpr n1
  have n2' : (n : Rat) < pow10 ((a + 1 : Nat) : Int) := pow10_natCast _ ▸ Rat.natCast_lt_natCast.mpr n2
  have d1' : pow10 b ≤ (d : Rat) := pow10_natCast b ▸ Rat.natCast_le_natCast.mpr d1
  have d2' : (d : Rat) < pow10 ((b + 1 : Nat) : Int) := pow10_natCast _ ▸ Rat.natCast_lt_natCast.mpr d2
  constructor
  · apply Rat.lt_of_mul_lt_mul_right (c := pow10 ((b + 1 : Nat) : Int)) _ (Rat.le_of_lt (pow10_pos _))
    rw [← pow10_add, show (a : Int) - b - 1 + ((b + 1 : Nat) : Int) = a by omega]
    have := Rat.mul_lt_mul_of_pos_left d2' h
    grind
  · apply Rat.lt_of_mul_lt_mul_right (c := pow10 b) _ (Rat.le_of_lt (pow10_pos _))
    rw [← pow10_add, show (a : Int) - b + 1 + (b : Int) = ((a + 1 : Nat) : Int) by omega]
    have := Rat.mul_le_mul_of_nonneg_left d1' (Rat.le_of_lt h)
    grind

theorem absR_pos {x : Rat} (h : x ≠ 0) : 0 < absR x := by
  unfold absR
  split
  · next h1 => simpa using Rat.neg_lt_neg h1
  · next h1 => exact Rat.lt_of_le_of_ne (Rat.not_lt.mp h1) (Ne.symm h)

theorem bisect_spec (table : List (Int × String)) (hs : (table.map (·.1)).Pairwise (· < ·))
    {k : Int} {n : String} (h : (k, n) ∈ table) :
    table[bisectLeft k (table.map (·.1))]? = some (k, n) := by
  induction table with
  | nil => cases h
  | cons p t ih =>
    rw [List.map_cons, List.pairwise_cons] at hs
    rcases List.mem_cons.mp h with rfl | h
    · simp [bisectLeft]
    · have hlt : p.1 < k := hs.1 k (List.mem_map.mpr ⟨(k, n), h, rfl⟩)
      simpa [bisectLeft, hlt] using ih hs.2 h

theorem mem_insertSorted {k : Int} {v : String} {t : List (Int × String)} {e : Int × String}
    (h : e ∈ insertSorted k v t) : e = (k, v) ∨ e ∈ t := by
  fun_induction insertSorted k v t <;> grind

theorem insertSorted_sorted (k : Int) (v : String) (t : List (Int × String))
    (hs : (t.map (·.1)).Pairwise (· < ·)) : ((insertSorted k v t).map (·.1)).Pairwise (· < ·) := by
  fun_induction insertSorted k v t with
  | case1 => simp
  | case2 k' v' t hlt =>  -- `k < k'`: in front
    rw [List.map_cons, List.pairwise_cons] at hs ⊢
    exact ⟨fun x hx => by grind, List.pairwise_cons.mpr hs⟩
  | case3 v' t h1 => exact hs  -- `k = k'`: overwritten
  | case4 k' v' t h1 h2 ih =>  -- `k' < k`: further down
    rw [List.map_cons, List.pairwise_cons] at hs ⊢
    refine ⟨fun x hx => ?_, ih hs.2⟩
    obtain ⟨e, he, rfl⟩ := List.mem_map.mp hx
    rcases mem_insertSorted he with rfl | he
    · show k' < k; omega
    · exact hs.1 _ (List.mem_map.mpr ⟨e, he, rfl⟩)

theorem exactLog10_some {s : Rat} {e : Int} (h : exactLog10 s = some e) : pow10 e = s := by
  grind [exactLog10]

theorem pickPrefix_mem (table : List (Int × String)) (p : Int) :
    pickPrefix table p = "" ∨ ∃ e, (e, pickPrefix table p) ∈ table := by
  unfold pickPrefix
  simp only []
  split
  · next e n h => exact Or.inr ⟨e, List.mem_of_getElem? h⟩
  · exact Or.inl rfl

end Pint.Rw
