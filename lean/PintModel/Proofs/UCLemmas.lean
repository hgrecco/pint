/-
  The association-list model of `UnitsContainer`: every operation is characterised by what it
  does to `get` (the exponent function), to `keys` and to membership.
-/
import PintModel.Model.UC

namespace Pint.UC

@[simp] theorem get_nil (k : String) : get [] k = 0 := rfl
@[simp] theorem get_cons (k' : String) (v : Rat) (t : UC) (k : String) :
    get ((k', v) :: t) k = if k' = k then v else get t k := rfl

@[simp] theorem keys_nil : keys ([] : UC) = [] := rfl
@[simp] theorem keys_cons (p : String × Rat) (t : UC) : keys (p :: t) = p.1 :: keys t := rfl

theorem mem_keys_of_mem {u : UC} {p : String × Rat} (h : p ∈ u) : p.1 ∈ u.keys :=
  List.mem_map_of_mem h

theorem get_eq_zero_of_not_mem_keys {u : UC} {k : String} (h : k ∉ u.keys) : u.get k = 0 := by
  induction u with
  | nil => rfl
  | cons p t ih =>
    rw [keys_cons, List.mem_cons, not_or] at h
    rw [get_cons, if_neg (Ne.symm h.1), ih h.2]

theorem get_set (u : UC) (k : String) (v : Rat) (k' : String) :
    (u.set k v).get k' = if k = k' then v else u.get k' := by
  fun_induction set u k v <;> grind [get]

theorem get_del (u : UC) (k k' : String) :
    (u.del k).get k' = if k = k' then 0 else u.get k' := by
  fun_induction del u k <;> grind [get]

theorem get_upd (u : UC) (k : String) (nv : Rat) (k' : String) :
    (u.upd k nv).get k' = if k = k' then nv else u.get k' := by
  unfold upd
  split
  · next h => rw [get_del, h]
  · exact get_set u k nv k'

theorem get_acc (a : UC) (k : String) (v : Rat) (d : String) :
    (a.acc k v).get d = a.get d + v * (if k = d then 1 else 0) := by
  rw [acc, get_set]
  split
  · next h => rw [h, Rat.mul_one]
  · rw [Rat.mul_zero, Rat.add_zero]

theorem keys_set (u : UC) (k : String) (v : Rat) :
    (u.set k v).keys = if k ∈ u.keys then u.keys else u.keys ++ [k] := by
  fun_induction set u k v with
  | case1 => rfl
  | case2 => simp
  | case3 k' v' t k v h ih =>
    simp only [keys_cons, ih, List.mem_cons, Ne.symm h, false_or]
    split <;> rfl

theorem del_eq_filter (u : UC) (k : String) : u.del k = u.filter (·.1 != k) := by
  fun_induction del u k <;> simp_all

theorem keys_del_sublist (u : UC) (k : String) : (u.del k).keys.Sublist u.keys :=
  del_eq_filter u k ▸ List.filter_sublist.map _

theorem mem_del {u : UC} {k : String} {p : String × Rat} (h : p ∈ u.del k) : p ∈ u :=
  (List.mem_filter.mp (del_eq_filter u k ▸ h)).1

theorem mem_set {u : UC} {k : String} {v : Rat} {p : String × Rat} (h : p ∈ u.set k v) :
    p ∈ u ∨ p = (k, v) := by
  fun_induction set u k v <;> grind

theorem forall_mem_upd {P : Rat → Prop} {u : UC} (h : ∀ p ∈ u, P p.2) (k : String) {nv : Rat}
    (hv : nv ≠ 0 → P nv) : ∀ p ∈ u.upd k nv, P p.2 := by
  intro p hp
  unfold upd at hp
  split at hp
  · exact h p (mem_del hp)
  · next hne =>
    rcases mem_set hp with hp | rfl
    · exact h p hp
    · exact hv hne

theorem keys_upd_subset {a : UC} {k : String} {nv : Rat} {k' : String}
    (h : k' ∈ (a.upd k nv).keys) : k' ∈ a.keys ∨ k' = k := by
  unfold upd at h
  split at h
  · exact .inl ((keys_del_sublist a k).subset h)
  · rw [keys_set] at h
    split at h
    · exact .inl h
    · simpa using h

theorem nodup_keys_set {u : UC} (h : u.keys.Nodup) (k : String) (v : Rat) : (u.set k v).keys.Nodup := by
  rw [keys_set]
  split
  · exact h
  · next hk => exact List.nodup_append.2 ⟨h, by simp, fun a ha b hb => by simp_all; exact fun e => hk (e ▸ ha)⟩

theorem nodup_keys_del {u : UC} (h : u.keys.Nodup) (k : String) : (u.del k).keys.Nodup :=
  h.sublist (keys_del_sublist u k)

theorem nodup_keys_upd {u : UC} (h : u.keys.Nodup) (k : String) (nv : Rat) : (u.upd k nv).keys.Nodup := by
  unfold upd; split
  · exact nodup_keys_del h k
  · exact nodup_keys_set h k nv

theorem nodup_acc {a : UC} (h : a.keys.Nodup) (k : String) (v : Rat) : (a.acc k v).keys.Nodup :=
  nodup_keys_set h k _

theorem noZero_del {u : UC} (h : u.NoZero) (k : String) : (u.del k).NoZero :=
  fun p hp => h p (mem_del hp)

theorem noZero_set {u : UC} (h : u.NoZero) (k : String) {v : Rat} (hv : v ≠ 0) : (u.set k v).NoZero := by
  intro p hp
  rcases mem_set hp with hp | rfl
  · exact h p hp
  · exact hv

theorem canon_del {u : UC} (h : u.Canon) (k : String) : (u.del k).Canon :=
  ⟨nodup_keys_del h.1 k, noZero_del h.2 k⟩

theorem canon_set {u : UC} (h : u.Canon) (k : String) {v : Rat} (hv : v ≠ 0) : (u.set k v).Canon :=
  ⟨nodup_keys_set h.1 k v, noZero_set h.2 k hv⟩

theorem canon_upd {u : UC} (h : u.Canon) (k : String) (nv : Rat) : (u.upd k nv).Canon :=
  ⟨nodup_keys_upd h.1 k nv, forall_mem_upd (P := (· ≠ 0)) h.2 k id⟩

/-- a successful `add` is `upd` (`add` fails only where `upd` would delete a key that is not there) -/
theorem add_eq_upd {a u : UC} {k : String} {v : Rat} (h : a.add k v = some u) :
    u = a.upd k (a.get k + v) := by
  unfold add at h
  unfold upd
  grind

theorem mem_pow {a : UC} {r : Rat} {p : String × Rat} (h : p ∈ a.pow r) :
    p.2 ≠ 0 ∧ ∃ q ∈ a, p = (q.1, q.2 * r) := by
  obtain ⟨q, hq, h⟩ := List.mem_filterMap.mp h
  split at h
  · cases h
  · next hne => cases h; exact ⟨hne, q, hq, rfl⟩

theorem keys_pow_sublist (a : UC) (r : Rat) : (a.pow r).keys.Sublist a.keys := by
  induction a with
  | nil => exact .slnil
  | cons p t ih =>
    unfold pow at ih ⊢
    rw [List.filterMap_cons]
    split
    · exact ih.cons _
    · next h => split at h <;> cases h; exact ih.cons_cons _

theorem keys_pow_subset {a : UC} {r : Rat} {k : String} (h : k ∈ (a.pow r).keys) : k ∈ a.keys :=
  (keys_pow_sublist a r).subset h

theorem noZero_pow (a : UC) (r : Rat) : (a.pow r).NoZero := fun _ hp => (mem_pow hp).1

theorem get_pow {a : UC} (h : a.keys.Nodup) (r : Rat) (k : String) : (a.pow r).get k = a.get k * r := by
  induction a with
  | nil => simp [pow, Rat.zero_mul]
  | cons p t ih =>
    simp only [keys_cons, List.nodup_cons] at h
    have := ih h.2
    have := @get_eq_zero_of_not_mem_keys (pow t r) p.1 fun hm => h.1 (keys_pow_subset hm)
    unfold pow at *
    grind only [get, = List.filterMap_cons]

theorem keys_dropZeros_sublist (u : UC) : (u.dropZeros).keys.Sublist u.keys :=
  List.filter_sublist.map _

theorem nodup_keys_dropZeros {u : UC} (h : u.keys.Nodup) : (u.dropZeros).keys.Nodup :=
  h.sublist (keys_dropZeros_sublist u)

theorem noZero_dropZeros (u : UC) : (u.dropZeros).NoZero := by
  intro p hp
  simpa [dropZeros] using (List.mem_filter.mp hp).2

theorem get_dropZeros {u : UC} (h : u.keys.Nodup) (k : String) : (u.dropZeros).get k = u.get k := by
  induction u with
  | nil => rfl
  | cons p t ih =>
    simp only [keys_cons, List.nodup_cons] at h
    have := ih h.2
    have := @get_eq_zero_of_not_mem_keys t p.1 h.1
    unfold dropZeros at *
    grind only [get, = List.filter_cons]

theorem mem_of_get_ne_zero {u : UC} {k : String} (h : u.get k ≠ 0) : (k, u.get k) ∈ u := by
  induction u with
  | nil => exact absurd rfl h
  | cons p t ih => grind [get]

theorem mem_get_of_nodup {u : UC} (h : u.keys.Nodup) {k : String} {v : Rat} (hm : (k, v) ∈ u) : u.get k = v := by
  induction u with
  | nil => cases hm
  | cons p t ih =>
    simp only [keys_cons, List.nodup_cons] at h
    rcases List.mem_cons.mp hm with rfl | hm
    · exact if_pos rfl
    · rw [get_cons, if_neg fun e : p.1 = k => h.1 (e ▸ mem_keys_of_mem hm), ih h.2 hm]

theorem mem_iff_get {u : UC} (h : u.Canon) {k : String} {v : Rat} : (k, v) ∈ u ↔ u.get k = v ∧ v ≠ 0 :=
  ⟨fun hm => ⟨mem_get_of_nodup h.1 hm, h.2 _ hm⟩, fun ⟨e, hv⟩ => e ▸ mem_of_get_ne_zero (e ▸ hv)⟩

theorem equiv_iff_mem {a b : UC} (ha : a.Canon) (hb : b.Canon) : Equiv a b ↔ ∀ p, p ∈ a ↔ p ∈ b := by
  constructor
  · intro he p
    rw [mem_iff_get ha, mem_iff_get hb, he p.1]
  · intro h k
    by_cases hz : a.get k = 0
    · by_cases hz' : b.get k = 0
      · rw [hz, hz']
      · exact mem_get_of_nodup ha.1 ((h _).mpr (mem_of_get_ne_zero hz'))
    · exact (mem_get_of_nodup hb.1 ((h _).mp (mem_of_get_ne_zero hz))).symm

theorem lookup_mem {u : UC} {k : String} {v : Rat} (h : u.lookup k = some v) : (k, v) ∈ u := by
  fun_induction lookup u k <;> grind

theorem lookup_eq_some_iff_mem {u : UC} (h : u.keys.Nodup) (k : String) (v : Rat) :
    u.lookup k = some v ↔ (k, v) ∈ u := by
  induction u with
  | nil => simp [lookup]
  | cons p t ih =>
    simp only [keys_cons, List.nodup_cons] at h
    have := @mem_keys_of_mem t (k, v)
    grind [lookup]

/-! `beq` (`dict.__eq__`) is symmetric and transitive on all lists, reflexive only on distinct keys. -/

theorem beq_comm (a b : UC) : a.beq b = b.beq a := by
  unfold beq; rw [Bool.and_comm]

theorem beq_trans {a b c : UC} (h1 : a.beq b = true) (h2 : b.beq c = true) : a.beq c = true := by
  unfold beq at h1 h2 ⊢
  simp only [Bool.and_eq_true, List.all_eq_true, beq_iff_eq] at h1 h2 ⊢
  exact ⟨fun p hp => h2.1 _ (lookup_mem (h1.1 p hp)), fun p hp => h1.2 _ (lookup_mem (h2.2 p hp))⟩

theorem beq_refl {u : UC} (hn : u.keys.Nodup) : u.beq u = true := by
  unfold beq
  simp only [Bool.and_self, List.all_eq_true, beq_iff_eq]
  exact fun p hp => (lookup_eq_some_iff_mem hn p.1 p.2).mpr hp

theorem beq_congr {a a' b b' : UC} (ea : a.beq a' = true) (eb : b.beq b' = true) : a.beq b = a'.beq b' :=
  Bool.eq_iff_iff.mpr ⟨fun h => beq_trans (beq_trans (beq_comm a a' ▸ ea) h) eb,
    fun h => beq_trans (beq_trans ea h) (beq_comm b b' ▸ eb)⟩

/-- The common shape of `mul` (`s = 1`) and `div` (`s = -1`): `acc[k] += s*v` with zero removal, over the
    items of `b`. -/
def merge (s : Rat) (a b : UC) : UC := b.foldl (fun acc p => acc.upd p.1 (acc.get p.1 + s * p.2)) a

theorem mul_eq_merge (a b : UC) : a.mul b = merge 1 a b := by
  unfold mul merge; congr; funext acc p; rw [Rat.one_mul]

theorem div_eq_merge (a b : UC) : a.div b = merge (-1) a b := by
  unfold div merge; congr; funext acc p
  rw [Rat.sub_eq_add_neg, Rat.neg_mul, Rat.one_mul]

theorem merge_induction {P : UC → Prop} (s : Rat) {a : UC} (h : P a) (b : UC)
    (step : ∀ u, P u → ∀ p ∈ b, P (u.upd p.1 (u.get p.1 + s * p.2))) : P (merge s a b) :=
  List.foldlRecOn b _ h step

theorem canon_merge (s : Rat) {a : UC} (h : a.Canon) (b : UC) : (merge s a b).Canon :=
  merge_induction s h b fun _ hu _ _ => canon_upd hu _ _

theorem keys_merge_subset {s : Rat} {a b : UC} {k : String}
    (h : k ∈ (merge s a b).keys) : k ∈ a.keys ∨ k ∈ b.keys := by
  revert h
  refine merge_induction (P := fun u => k ∈ u.keys → k ∈ a.keys ∨ k ∈ b.keys) s .inl b ?_
  intro u hu p hp h
  rcases keys_upd_subset h with h | rfl
  · exact hu h
  · exact .inr (mem_keys_of_mem hp)

end Pint.UC

namespace Pint.Fmt.DenoteLemmas
open Pint

/-- The sum of all exponents stored under `k`, duplicates included: what `get` reads when keys are distinct, and
    what `mul` / `div` / `merge` add at `k` whether they are or not.  (The namespace is that of the formatter's
    denotation, which uses it; so does the inversion of system rules.) -/
def sumGet : UC → String → Rat
  | [], _ => 0
  | (k', v) :: t, k => (if k' = k then v else 0) + sumGet t k

@[simp] theorem sumGet_nil (k : String) : sumGet [] k = 0 := rfl
@[simp] theorem sumGet_cons (k' : String) (v : Rat) (t : UC) (k : String) :
    sumGet ((k', v) :: t) k = (if k' = k then v else 0) + sumGet t k := rfl

theorem sumGet_append (a b : UC) (k : String) : sumGet (a ++ b) k = sumGet a k + sumGet b k := by
  induction a with
  | nil => simp [Rat.zero_add]
  | cons p t ih =>
    obtain ⟨k0, v0⟩ := p
    simp only [List.cons_append, sumGet_cons, ih, Rat.add_assoc]

theorem sumGet_perm {a b : UC} (h : a.Perm b) (k : String) : sumGet a k = sumGet b k := by
  induction h with
  | nil => rfl
  | cons x _ ih => obtain ⟨k0, v0⟩ := x; simp only [sumGet_cons, ih]
  | swap x y l =>
    obtain ⟨k0, v0⟩ := x; obtain ⟨k1, v1⟩ := y
    simp only [sumGet_cons]; grind
  | trans _ _ ih1 ih2 => exact ih1.trans ih2

theorem sumGet_map_mul (c : Rat) (u : UC) (k : String) :
    sumGet (u.map fun p => (p.1, c * p.2)) k = c * sumGet u k := by
  induction u with
  | nil => simp
  | cons p t ih =>
    obtain ⟨k0, v0⟩ := p
    simp only [List.map_cons, sumGet_cons, ih, Rat.mul_add]
    split <;> simp

theorem sumGet_filter_ne (u : UC) (old k : String) :
    sumGet (u.filter (·.1 != old)) k = if k = old then 0 else sumGet u k := by
  induction u with
  | nil => simp
  | cons p t ih => grind only [sumGet, = List.filter_cons]

theorem sumGet_eq_get {u : UC} (h : u.keys.Nodup) (k : String) : sumGet u k = u.get k := by
  induction u with
  | nil => rfl
  | cons p t ih =>
    obtain ⟨k0, v0⟩ := p
    simp only [UC.keys_cons, List.nodup_cons] at h
    simp only [sumGet_cons, UC.get_cons, ih h.2]
    split
    · next h0 => rw [UC.get_eq_zero_of_not_mem_keys (h0 ▸ h.1), Rat.add_zero]
    · rw [Rat.zero_add]

theorem get_merge_sumGet (s : Rat) (a b : UC) (k : String) :
    (UC.merge s a b).get k = a.get k + s * sumGet b k := by
  unfold UC.merge
  induction b generalizing a with
  | nil => simp [Rat.mul_zero, Rat.add_zero]
  | cons p t ih =>
    obtain ⟨k0, v0⟩ := p
    rw [List.foldl_cons, ih, UC.get_upd, sumGet_cons]
    split
    · next h0 => subst h0; rw [Rat.mul_add, Rat.add_assoc]
    · rw [Rat.zero_add]

theorem get_mul (a b : UC) (k : String) : (a.mul b).get k = a.get k + sumGet b k := by
  rw [UC.mul_eq_merge, get_merge_sumGet, Rat.one_mul]

theorem get_div (a b : UC) (k : String) : (a.div b).get k = a.get k - sumGet b k := by
  rw [UC.div_eq_merge, get_merge_sumGet, Rat.neg_mul, Rat.one_mul, Rat.sub_eq_add_neg]

theorem _root_.Pint.UC.get_merge (s : Rat) (a : UC) {b : UC} (hb : b.keys.Nodup) (k : String) :
    (UC.merge s a b).get k = a.get k + s * b.get k := by
  rw [get_merge_sumGet, sumGet_eq_get hb]

end Pint.Fmt.DenoteLemmas
