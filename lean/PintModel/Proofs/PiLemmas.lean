/-
  Soundness of the Buckingham-pi model (`PintModel/Model/Pi.lean`):
  every row returned by `piRows matrix` is a dimensionless monomial.

  Route: the Gaussian elimination keeps the invariant
     row i of `ech`  =  Σ_k (row i of `idm`)[k] • (row k of A)        (A := transpose matrix)
  (stated entrywise through `wsum`).  A zero row of `ech` therefore gives a vanishing linear
  combination of the quantity rows, i.e. a dimensionless monomial.
-/
import PintModel.Model.Pi

namespace Pint.Pi

/-- `Σ_k c[k] * f k` -/
def wsum : Row → (Nat → Rat) → Rat
  | [], _ => 0
  | c :: cs, f => c * f 0 + wsum cs (fun k => f (k + 1))

@[simp] theorem wsum_nil (f : Nat → Rat) : wsum [] f = 0 := rfl
@[simp] theorem wsum_cons (c : Rat) (cs : Row) (f : Nat → Rat) :
    wsum (c :: cs) f = c * f 0 + wsum cs (fun k => f (k + 1)) := rfl

theorem wsum_congr {c : Row} {f g : Nat → Rat} (h : ∀ k, k < c.length → f k = g k) :
    wsum c f = wsum c g := by
  induction c generalizing f g with
  | nil => rfl
  | cons a t ih =>
    simp only [wsum_cons]
    rw [h 0 (by simp), ih (fun k hk => h (k + 1) (by simpa using hk))]

theorem wsum_zero (c : Row) {f : Nat → Rat} (h : ∀ k, f k = 0) : wsum c f = 0 := by
  induction c generalizing f with
  | nil => rfl
  | cons a t ih =>
    rw [wsum_cons, h 0, ih (fun k => h (k + 1)), Rat.mul_zero, Rat.add_zero]

/-- an entry of a row is its weighted sum against an indicator, so the linearity lemmas of `wsum`
    below also say what `scaleRow` and `elimRow` do entry by entry -/
theorem getD_eq_wsum (c : Row) (j : Nat) :
    c.getD j 0 = wsum c (fun k => if k = j then 1 else 0) := by
  induction c generalizing j with
  | nil => rfl
  | cons a t ih =>
    cases j with
    | zero =>
      rw [wsum_cons, wsum_zero t (fun k => if_neg (Nat.succ_ne_zero k)), List.getD_cons_zero]
      simp [Rat.add_zero]
    | succ j =>
      rw [wsum_cons, List.getD_cons_succ, ih j]
      simp [Rat.zero_add]

theorem wsum_map_div (c : Row) (lv : Rat) (f : Nat → Rat) :
    wsum (c.map (· / lv)) f = wsum c f / lv := by
  induction c generalizing f with
  | nil => simp [Rat.div_def]
  | cons a t ih =>
    rw [List.map_cons, wsum_cons, ih, wsum_cons]; simp only [Rat.div_def]; grind

theorem wsum_map_scale (c : Row) (a b : Rat) (f : Nat → Rat) :
    wsum (c.map (fun x => a * x * b)) f = a * b * wsum c f := by
  induction c generalizing f with
  | nil => simp
  | cons x t ih =>
    simp only [List.map_cons, wsum_cons, ih]; grind

theorem wsum_elim (p c : Row) (lv : Rat) (f : Nat → Rat) (h : p.length = c.length) :
    wsum (List.zipWith (fun rv iv => iv - lv * rv) p c) f = wsum c f - lv * wsum p f := by
  induction p generalizing c f with
  | nil =>
    obtain rfl := List.length_eq_zero_iff.mp h.symm
    simp only [List.zipWith_nil_left, wsum_nil]; grind
  | cons a t ih =>
    obtain ⟨b, u, rfl⟩ := List.exists_cons_of_length_eq_add_one h.symm
    simp only [List.zipWith_cons_cons, wsum_cons, ih u _ (by simpa using h)]; grind

theorem wsum_append (a b : Row) (f : Nat → Rat) :
    wsum (a ++ b) f = wsum a f + wsum b (fun k => f (k + a.length)) := by
  induction a generalizing f with
  | nil => simp only [List.nil_append, wsum_nil, List.length_nil, Nat.add_zero]; grind
  | cons x t ih =>
    simp only [List.cons_append, wsum_cons, ih, List.length_cons, ← Nat.add_assoc]; grind

theorem wsum_indicator (n i : Nat) (f : Nat → Rat) :
    wsum ((List.range n).map fun j => if i = j then (1 : Rat) else 0) f
      = if i < n then f i else 0 := by
  induction n with
  | zero => simp
  | succ n ih =>
    rw [List.range_succ, List.map_append, wsum_append, ih]
    simp only [List.map_cons, List.map_nil, wsum_cons, wsum_nil, List.length_map,
      List.length_range, Nat.zero_add]
    grind

theorem foldl_zipWith_eq_wsum (d v : Row) :
    (List.zipWith (· * ·) d v).foldl (· + ·) 0 = wsum v (fun k => d.getD k 0) := by
  rw [← List.sum_eq_foldl]
  induction v generalizing d with
  | nil => simp
  | cons x t ih =>
    cases d with
    | nil => simp [wsum_zero]
    | cons y u => simp [ih, Rat.mul_comm]

theorem getRow_eq_getElem {m : Mat} {i : Nat} (h : i < m.length) : getRow m i = m[i] := by
  simp [getRow, List.getD_eq_getElem?_getD, h]

theorem getRow_of_le {m : Mat} {i : Nat} (h : m.length ≤ i) : getRow m i = [] := by
  simp [getRow, List.getD_eq_getElem?_getD, h]

@[simp] theorem length_setRow (m : Mat) (i : Nat) (r : Row) : (setRow m i r).length = m.length := by
  simp [setRow]

theorem getRow_setRow (m : Mat) (i k : Nat) (r : Row) :
    getRow (setRow m i r) k = if i = k ∧ i < m.length then r else getRow m k := by
  simp only [getRow, setRow, List.getD_eq_getElem?_getD, List.getElem?_set]
  grind

/-- the pair (row of `ech`, row of `idm`) is well-shaped and the first is the linear combination
    of the rows of `A` with the coefficients of the second -/
def RowOK (A : Mat) (cols L : Nat) (re ri : Row) : Prop :=
  re.length = cols ∧ ri.length = L ∧ ∀ j, re.getD j 0 = wsum ri (fun k => entry A k j)

structure Inv (A : Mat) (rows cols : Nat) (ech idm : Mat) : Prop where
  hel : ech.length = rows
  hil : idm.length = rows
  hrow : ∀ i, i < rows → RowOK A cols rows (getRow ech i) (getRow idm i)

theorem RowOK.scale {A : Mat} {cols L : Nat} {re ri : Row} (h : RowOK A cols L re ri) (lv : Rat) :
    RowOK A cols L (scaleRow re lv) (scaleRow ri lv) := by
  obtain ⟨h1, h2, h3⟩ := h
  refine ⟨by simp [scaleRow, h1], by simp [scaleRow, h2], fun j => ?_⟩
  rw [getD_eq_wsum, scaleRow, scaleRow, wsum_map_div, wsum_map_div, ← getD_eq_wsum, h3 j]

theorem RowOK.elim {A : Mat} {cols L : Nat} {pe pi re ri : Row}
    (hp : RowOK A cols L pe pi) (h : RowOK A cols L re ri) (lv : Rat) :
    RowOK A cols L (elimRow pe re lv) (elimRow pi ri lv) := by
  obtain ⟨p1, p2, p3⟩ := hp
  obtain ⟨h1, h2, h3⟩ := h
  refine ⟨by simp [elimRow, h1, p1], by simp [elimRow, h2, p2], fun j => ?_⟩
  rw [getD_eq_wsum, elimRow, elimRow, wsum_elim _ _ _ _ (p1.trans h1.symm),
    wsum_elim _ _ _ _ (p2.trans h2.symm), ← getD_eq_wsum, ← getD_eq_wsum, h3 j, p3 j]

theorem Inv.setRow {A : Mat} {rows cols : Nat} {ech idm : Mat} (h : Inv A rows cols ech idm)
    {r : Nat} {re ri : Row} (hr : RowOK A cols rows re ri) :
    Inv A rows cols (setRow ech r re) (setRow idm r ri) := by
  refine ⟨by simp [h.hel], by simp [h.hil], fun i hi => ?_⟩
  rw [getRow_setRow, getRow_setRow, h.hel, h.hil]
  by_cases c : r = i ∧ r < rows
  · rw [if_pos c, if_pos c]; exact hr
  · rw [if_neg c, if_neg c]; exact h.hrow i hi

theorem Inv.swap {A : Mat} {rows cols : Nat} {ech idm : Mat} (h : Inv A rows cols ech idm)
    {s r : Nat} (hs : s < rows) (hr : r < rows) :
    Inv A rows cols (swapRows ech s r) (swapRows idm s r) :=
  (h.setRow (h.hrow r hr)).setRow (h.hrow s hs)

/-- the search steps to `s + 1` only when that is not `rows`, and otherwise starts again at `r` -/
theorem findPivot_lt {ech : Mat} {rows cols r : Nat} (hr : r < rows) {fuel s lead s' lead' : Nat}
    (hs : s < rows) (h : findPivot ech rows cols r fuel s lead = some (s', lead')) : s' < rows := by
  fun_induction findPivot ech rows cols r fuel s lead <;> grind

theorem stepRow_inv {A : Mat} {rows cols : Nat} {st st' : State} {r : Nat} (hr : r < rows)
    (h : Inv A rows cols st.ech st.idm) (hst : stepRow rows cols st r = some st') :
    Inv A rows cols st'.ech st'.idm := by
  unfold stepRow at hst
  split at hst
  · cases hst
  split at hst
  · cases hst
  rename_i s lead hfp
  cases hst
  have h1 := h.swap (findPivot_lt hr hr hfp) hr
  have h2 := h1.setRow (r := r) ((h1.hrow r hr).scale (entry (swapRows st.ech s r) r lead))
  -- the inner `for s' in range(rows)` loop: every pass subtracts a multiple of the pivot row `r`
  refine List.foldlRecOn (motive := fun (acc : Mat × Mat) => Inv A rows cols acc.1 acc.2) _ _ h2
    fun acc hacc s' hs' => ?_
  split
  · exact hacc
  · exact hacc.setRow ((h2.hrow r hr).elim (hacc.hrow s' (List.mem_range.mp hs')) _)

theorem loop_inv {A : Mat} {rows cols : Nat} (l : List Nat) (hl : ∀ x ∈ l, x < rows) {st : State}
    (h : Inv A rows cols st.ech st.idm) :
    Inv A rows cols (loop rows cols l st).ech (loop rows cols l st).idm := by
  induction l generalizing st with
  | nil => exact h
  | cons r rs ih =>
    unfold loop
    split
    · exact h
    · rename_i st' hst
      exact ih (fun y hy => hl y (List.mem_cons_of_mem _ hy))
        (stepRow_inv (hl r List.mem_cons_self) h hst)

theorem length_identity (n : Nat) : (identity n).length = n := by simp [identity]

theorem getRow_identity {n i : Nat} (h : i < n) :
    getRow (identity n) i = (List.range n).map fun j => if i = j then (1 : Rat) else 0 := by
  rw [getRow_eq_getElem (by rw [length_identity]; exact h)]
  simp [identity]

theorem inv_init (A : Mat) (c : Nat) (hA : ∀ row ∈ A, row.length = c) :
    Inv A A.length (A.headD []).length A (identity A.length) := by
  refine ⟨rfl, length_identity _, fun i hi => ?_⟩
  rw [getRow_identity hi]
  refine ⟨?_, by simp, fun j => ?_⟩
  · rw [getRow_eq_getElem hi, hA _ (List.getElem_mem hi)]
    cases A with
    | nil => simp at hi
    | cons a t => simp [hA a List.mem_cons_self]
  · rw [wsum_indicator, if_pos hi]; rfl

theorem transpose_row_length (m : Mat) : ∀ row ∈ transpose m, row.length = m.length := by
  intro row h
  cases m with
  | nil => simp [transpose] at h
  | cons r t =>
    simp only [transpose, List.mem_map, List.mem_range] at h
    obtain ⟨j, _, rfl⟩ := h
    simp

theorem entry_transpose {m : Mat} {k j : Nat} (hk : k < (transpose m).length) (hj : j < m.length) :
    entry (transpose m) k j = m[j].getD k 0 := by
  cases m with
  | nil => cases hj
  | cons r t =>
    rw [entry, getRow_eq_getElem hk]
    simp only [transpose, List.getElem_map, List.getElem_range]
    rw [List.getD_eq_getElem?_getD, List.getElem?_map, List.getElem?_eq_getElem hj]
    rfl

/-- the invariant, stated for the result of `columnEchelonForm`: row `i` of the echelon matrix is
    the linear combination of the rows of `transpose matrix` with coefficients row `i` of the
    transformed identity -/
theorem columnEchelonForm_inv (matrix : Mat) :
    Inv (transpose matrix) (transpose matrix).length ((transpose matrix).headD []).length
      (columnEchelonForm matrix).1 (columnEchelonForm matrix).2.1 :=
  loop_inv _ (fun x hx => by simpa using hx)
    (inv_init (transpose matrix) matrix.length (transpose_row_length matrix))

theorem Inv.of_mem_zip {A ech idm : Mat} {rows cols : Nat} (h : Inv A rows cols ech idm)
    {p : Row × Row} (hp : p ∈ List.zip ech idm) : RowOK A cols rows p.1 p.2 := by
  obtain ⟨i, hi, rfl⟩ := List.mem_iff_getElem.mp hp
  have hi' : i < rows := by simpa [h.hel, h.hil] using hi
  simpa [getRow_eq_getElem, h.hel, h.hil, hi'] using h.hrow i hi'

theorem getD_of_all_zero {l : Row} (h : ¬ l.any (· != 0) = true) (j : Nat) : l.getD j 0 = 0 := by
  rw [List.getD_eq_getElem?_getD]
  cases hj : l[j]? with
  | none => rfl
  | some x => simpa using fun hne => h (List.any_eq_true.mpr ⟨x, List.mem_of_getElem? hj, hne⟩)

/-- a zero row of `ech`: every multiple of its row of `idm` is a vanishing combination of the rows of `A`
    (so the sign and the common denominator that `pi_theorem` multiplies with do not matter) -/
theorem RowOK.of_zero {A : Mat} {cols L : Nat} {re ri : Row} (h : RowOK A cols L re ri)
    (hz : ¬ re.any (· != 0) = true) (a b : Rat) :
    (ri.map fun f => a * f * b).length = L ∧
      ∀ j, wsum (ri.map fun f => a * f * b) (fun k => entry A k j) = 0 :=
  ⟨by simp [h.2.1], fun j => by rw [wsum_map_scale, ← h.2.2 j, getD_of_all_zero hz, Rat.mul_zero]⟩

theorem piRows_sound {matrix : Mat} {v : Row} (hv : v ∈ piRows matrix) :
    v.length = (transpose matrix).length ∧ ∀ j, wsum v (fun k => entry (transpose matrix) k j) = 0 := by
  obtain ⟨⟨re, ri⟩, hp, hex⟩ := List.mem_filterMap.mp hv
  dsimp only at hex
  split at hex
  · cases hex
  next hz => cases hex; exact ((columnEchelonForm_inv matrix).of_mem_zip hp).of_zero hz _ _

/-- every exponent vector returned by `piRows` is a dimensionless monomial; the shape hypothesis `Rect` of
    `pi_sound` is not needed -/
theorem pi_sound' (matrix : Mat) :
    ∀ v ∈ piRows matrix, ∀ x ∈ monomialDims matrix v, x = 0 := by
  intro v hv x hx
  obtain ⟨hlen, hz⟩ := piRows_sound hv
  obtain ⟨dimRow, hd, rfl⟩ := List.mem_map.mp hx
  obtain ⟨j, hj, rfl⟩ := List.mem_iff_getElem.mp hd
  rw [foldl_zipWith_eq_wsum]
  exact (wsum_congr fun k hk => (entry_transpose (hlen ▸ hk) hj).symm).trans (hz j)

/-- well-formedness of the input: all rows (one per dimension) have the same length -/
def Rect (matrix : Mat) : Prop := ∃ n, ∀ row ∈ matrix, row.length = n

theorem pi_sound (matrix : Mat) (_hrect : Rect matrix) :
    ∀ v ∈ piRows matrix, ∀ x ∈ monomialDims matrix v, x = 0 :=
  pi_sound' matrix

end Pint.Pi
