/-
  The root-unit expansion `_get_root_units_recurse` (model: `Registry.rootRec`) computes, for
  integer exponents, `factor * φ(ref)^exp` and `units + exp • F(ref)`: characterisation by a
  pure denotation `rootVal`, and the homomorphism theorems for `getRootUnits` that follow
  (`mul`, `div`, integer `pow`).

  Core Lean only (no Mathlib): the few integer-power facts about `Rat` that core lacks
  (`zpow_mul`, `mul_zpow`, …) are proved here.
-/
import PintModel.Proofs.DimLemmas

namespace Pint
open UC

namespace RatPow

theorem exists_intCast_of_den {x : Rat} (h : x.den = 1) : ∃ z : Int, x = (z : Rat) :=
  ⟨x.num, by apply Rat.ext <;> simp [h]⟩

theorem den_mul {x y : Rat} (hx : x.den = 1) (hy : y.den = 1) : (x * y).den = 1 := by
  obtain ⟨a, rfl⟩ := exists_intCast_of_den hx
  obtain ⟨b, rfl⟩ := exists_intCast_of_den hy
  rw [← Rat.intCast_mul]; rfl

theorem den_add {x y : Rat} (hx : x.den = 1) (hy : y.den = 1) : (x + y).den = 1 := by
  obtain ⟨a, rfl⟩ := exists_intCast_of_den hx
  obtain ⟨b, rfl⟩ := exists_intCast_of_den hy
  rw [← Rat.intCast_add]; rfl

theorem mul_zpow (a b : Rat) (n : Int) : (a * b) ^ n = a ^ n * b ^ n := by
  rcases n with n | n
  · exact Lean.Grind.CommSemiring.mul_pow a b n
  · show ((a * b) ^ (n + 1))⁻¹ = (a ^ (n + 1))⁻¹ * (b ^ (n + 1))⁻¹
    rw [Lean.Grind.CommSemiring.mul_pow, Rat.inv_mul_rev, Rat.mul_comm]

theorem zpow_ne_zero {a : Rat} (h : a ≠ 0) (n : Int) : a ^ n ≠ 0 := by
  intro hz
  have := Rat.zpow_add h n (-n)
  rw [Int.add_right_neg, Rat.zpow_zero, hz, Rat.zero_mul] at this
  exact absurd this (by decide)

theorem zpow_mul {a : Rat} (h : a ≠ 0) (m n : Int) : a ^ (m * n) = (a ^ m) ^ n := by
  have nat (k : Nat) : a ^ (m * (k : Int)) = (a ^ m) ^ (k : Int) := by
    induction k with
    | zero => simp
    | succ k ih =>
      rw [Int.natCast_succ, Int.mul_add, Int.mul_one, Rat.zpow_add h,
        Rat.zpow_add_one (zpow_ne_zero h m), ih]
  obtain ⟨k, rfl | rfl⟩ := Int.eq_nat_or_neg n
  · exact nat k
  · rw [Int.mul_neg, Rat.zpow_neg, Rat.zpow_neg, nat]

/-- `x ^ q` for an integer-valued rational exponent `q` -/
def zp (x q : Rat) : Rat := x ^ q.num

theorem zp_def (x q : Rat) : zp x q = x ^ q.num := rfl
@[simp] theorem zp_zero (x : Rat) : zp x 0 = 1 := Rat.zpow_zero x
@[simp] theorem zp_one (x : Rat) : zp x 1 = x := Rat.zpow_one x
theorem zp_intCast (x : Rat) (n : Int) : zp x (n : Rat) = x ^ n := rfl

@[simp] theorem one_zp (q : Rat) : zp 1 q = 1 := by
  have := zpow_mul (a := 1) (by decide) 0 q.num
  rwa [Int.zero_mul, Rat.zpow_zero, eq_comm] at this

theorem zp_ne_zero {x : Rat} (h : x ≠ 0) (q : Rat) : zp x q ≠ 0 := zpow_ne_zero h _

theorem zp_add {x : Rat} (hx : x ≠ 0) {a b : Rat} (ha : a.den = 1) (hb : b.den = 1) :
    zp x (a + b) = zp x a * zp x b := by
  obtain ⟨a, rfl⟩ := exists_intCast_of_den ha
  obtain ⟨b, rfl⟩ := exists_intCast_of_den hb
  rw [← Rat.intCast_add]; exact Rat.zpow_add hx a b

theorem zp_mul {x : Rat} (hx : x ≠ 0) {a b : Rat} (ha : a.den = 1) (hb : b.den = 1) :
    zp x (a * b) = zp (zp x a) b := by
  obtain ⟨a, rfl⟩ := exists_intCast_of_den ha
  obtain ⟨b, rfl⟩ := exists_intCast_of_den hb
  rw [← Rat.intCast_mul]; exact zpow_mul hx a b

theorem mul_zp (x y q : Rat) : zp (x * y) q = zp x q * zp y q := mul_zpow _ _ _

theorem zp_neg_one (x : Rat) : zp x (-1) = x⁻¹ := Lean.Grind.Field.zpow_neg_one x

theorem powRat_int {s e : Rat} (hs : s ≠ 0) (he : e.den = 1) : Registry.powRat s e = some (zp s e) := by
  unfold Registry.powRat zp
  rw [if_pos he, if_neg (fun h => hs h.1)]

end RatPow

open RatPow

/-- all exponents are integers -/
def IntUC (u : UC) : Prop := ∀ p ∈ u, p.2.den = 1

def KeysIn (S : String → Prop) (u : UC) : Prop := ∀ k ∈ u.keys, S k

theorem IntUC.nil : IntUC [] := fun _ h => by cases h
theorem IntUC.tail {p : String × Rat} {t : UC} (h : IntUC (p :: t)) : IntUC t :=
  fun q hq => h q (List.mem_cons_of_mem _ hq)
theorem IntUC.head {k : String} {v : Rat} {t : UC} (h : IntUC ((k, v) :: t)) : v.den = 1 :=
  h (k, v) List.mem_cons_self

theorem KeysIn.tail {S : String → Prop} {p : String × Rat} {t : UC} (h : KeysIn S (p :: t)) :
    KeysIn S t := fun k hk => h k (List.mem_cons_of_mem _ hk)
theorem KeysIn.head {S : String → Prop} {k : String} {v : Rat} {t : UC}
    (h : KeysIn S ((k, v) :: t)) : S k := h k List.mem_cons_self

theorem IntUC.get {u : UC} (h : IntUC u) (k : String) : (u.get k).den = 1 := by
  by_cases hz : u.get k = 0
  · rw [hz]; rfl
  · exact h _ (mem_of_get_ne_zero hz)

theorem IntUC.upd {u : UC} (h : IntUC u) (k : String) {nv : Rat} (hv : nv.den = 1) : IntUC (u.upd k nv) :=
  forall_mem_upd (P := (·.den = 1)) h k fun _ => hv

theorem IntUC.merge {s : Rat} (hs : s.den = 1) {a b : UC} (ha : IntUC a) (hb : IntUC b) :
    IntUC (merge s a b) :=
  merge_induction s ha b fun _ hu p hp => hu.upd p.1 (den_add (hu.get p.1) (den_mul hs (hb p hp)))

theorem IntUC.pow {a : UC} (ha : IntUC a) {r : Rat} (hr : r.den = 1) : IntUC (a.pow r) := by
  intro p hp
  obtain ⟨-, q, hq, rfl⟩ := mem_pow hp
  exact den_mul (ha q hq) hr

theorem KeysIn.merge {S : String → Prop} {s : Rat} {a b : UC} (ha : KeysIn S a) (hb : KeysIn S b) :
    KeysIn S (merge s a b) := fun k hk => (keys_merge_subset hk).elim (ha k) (hb k)

theorem KeysIn.pow {S : String → Prop} {a : UC} (ha : KeysIn S a) (r : Rat) :
    KeysIn S (a.pow r) := fun k hk => ha k (keys_pow_subset hk)

/-- `Π_{(k,v) ∈ u} g k ^ v`, the multiplicative counterpart of `sumOver` -/
def prodOver (u : UC) (g : String → Rat) : Rat :=
  match u with
  | [] => 1
  | (k, v) :: t => zp (g k) v * prodOver t g

@[simp] theorem prodOver_nil (g : String → Rat) : prodOver [] g = 1 := rfl
@[simp] theorem prodOver_cons (k : String) (v : Rat) (t : UC) (g : String → Rat) :
    prodOver ((k, v) :: t) g = zp (g k) v * prodOver t g := rfl

theorem prodOver_ne_zero {g : String → Rat} (hg : ∀ k, g k ≠ 0) (u : UC) : prodOver u g ≠ 0 := by
  induction u with
  | nil => simp
  | cons p t ih => exact fun h => (Rat.mul_eq_zero.1 h).elim (zp_ne_zero (hg p.1) p.2) ih

theorem prodOver_congr {u : UC} {g g' : String → Rat} (h : ∀ k ∈ u.keys, g k = g' k) :
    prodOver u g = prodOver u g' := by
  induction u with
  | nil => rfl
  | cons p t ih =>
    rw [keys_cons, List.forall_mem_cons] at h
    rw [prodOver_cons, prodOver_cons, h.1, ih h.2]

/-- `sumOver_upd` without a quotient: `upd` exchanges the factor that belongs to the old exponent
    of `k` (put back on the left) for the one that belongs to the new (on the right) -/
theorem prodOver_upd {g : String → Rat} {a : UC} (h : a.keys.Nodup) (k : String) (nv : Rat) :
    prodOver (a.upd k nv) g * zp (g k) (a.get k) = prodOver a g * zp (g k) nv := by
  induction a with
  | nil => unfold UC.upd; split <;> simp_all [UC.del, UC.set, Rat.mul_one, Rat.one_mul]
  | cons p t ih =>
    simp only [keys_cons, List.nodup_cons] at h
    have := ih h.2
    have := @get_eq_zero_of_not_mem_keys t p.1 h.1
    have := zp_zero (g k)
    grind [UC.upd, UC.del, UC.set, prodOver, UC.get]

theorem prodOver_merge {g : String → Rat} (hg : ∀ k, g k ≠ 0) {s : Rat} (hs : s.den = 1)
    {a : UC} (ha : IntUC a) (h : a.keys.Nodup) {b : UC} (hb : IntUC b) :
    prodOver (merge s a b) g = prodOver a g * zp (prodOver b g) s := by
  unfold UC.merge
  induction b generalizing a with
  | nil => simp [Rat.mul_one]
  | cons p t ih =>
    obtain ⟨k, v⟩ := p
    have hsv := den_mul hs hb.head
    -- `zp` is additive on integer exponents, so the old factor of `k` cancels
    have e : prodOver (a.upd k (a.get k + s * v)) g = prodOver a g * zp (g k) (s * v) := by
      have e := prodOver_upd (g := g) h k (a.get k + s * v)
      rw [zp_add (hg k) (ha.get k) hsv] at e
      have := zp_ne_zero (hg k) (a.get k)
      grind
    rw [List.foldl_cons, ih (ha.upd k (den_add (ha.get k) hsv)) (nodup_keys_upd h _ _) hb.tail, e,
      prodOver_cons, mul_zp, ← zp_mul (hg k) hb.head hs, Rat.mul_comm v, Rat.mul_assoc]

theorem prodOver_pow {g : String → Rat} (hg : ∀ k, g k ≠ 0) {a : UC} (ha : IntUC a)
    {r : Rat} (hr : r.den = 1) :
    prodOver (a.pow r) g = zp (prodOver a g) r := by
  induction a with
  | nil => simp [UC.pow]
  | cons p t ih =>
    obtain ⟨k, v⟩ := p
    have ih' := ih ha.tail
    unfold UC.pow at ih' ⊢
    simp only [List.filterMap_cons, prodOver_cons, mul_zp]
    rw [← zp_mul (hg k) ha.head hr]
    by_cases hz : v * r = 0 <;> simp [hz, ih']

namespace Registry

/-- Well-formedness relative to a set `S` of unit names closed under references: every non-base definition that
    `resolve` returns for a name in `S` has an integer reference whose keys are again in `S`, and a nonzero scale if
    it has a rational scale at all (without one, `Conv.irrational`, both the model and the denotation fail, so
    nothing need be assumed).  Nothing is required of base units or of names outside `S`, so the default registry
    (which contains `planck_length = hbar^(1/2) …`) satisfies `WFintOn S` for suitable `S`. -/
def WFintOn (R : Registry) (S : String → Prop) : Prop :=
  ∀ k, S k → ∀ key d, R.resolve k = .ok (key, some d) → d.isBase = false →
    IntUC d.ref ∧ KeysIn S d.ref ∧ ∀ s, d.conv.scaleOf = some s → s ≠ 0

def WFint (R : Registry) : Prop := R.WFintOn (fun _ => True)

/-- a stronger condition, stated directly over all results of `resolve` -/
theorem WFint_of_resolve (R : Registry)
    (h : ∀ k key d, R.resolve k = .ok (key, some d) →
      IntUC d.ref ∧ (d.isBase = false → ∃ s, d.conv.scaleOf = some s ∧ s ≠ 0)) : R.WFint := by
  intro k _ key d hr hb
  obtain ⟨h1, h2⟩ := h k key d hr
  obtain ⟨s', hs', hne⟩ := h2 hb
  exact ⟨h1, fun _ _ => trivial, fun s hs => Option.some.inj (hs.symm.trans hs') ▸ hne⟩

theorem keysIn_true (u : UC) : KeysIn (fun _ => True) u := fun _ _ => trivial

/-- what one key contributes per unit exponent: the factor and, as a function of the base
    unit, the exponent.  (`none` for a zero scale: the model then fails for negative
    exponents; excluded by `WFintOn`.) -/
def rootKeyVal (R : Registry) (rec : UC → Option (Rat × (String → Rat))) (k : String) :
    Option (Rat × (String → Rat)) :=
  match R.resolve k with
  | .ok (key, some d) =>
    if d.isBase then some (1, fun x => if key = x then 1 else 0)
    else
      match d.conv.scaleOf with
      | none => none
      | some s => if s = 0 then none else (rec d.ref).map (fun p => (s * p.1, p.2))
  | _ => none

/-- `(Π ψ_k ^ v, fun d => Σ v * f_k d)` over the items `(k, v)`, where `kv k = (ψ_k, f_k)`; undefined as soon as
    one `kv k` is -/
def rootSum (kv : String → Option (Rat × (String → Rat))) : UC → Option (Rat × (String → Rat))
  | [] => some (1, fun _ => 0)
  | (k, v) :: t =>
    match kv k, rootSum kv t with
    | some p, some q => some (p.1 ^ v.num * q.1, fun d => v * p.2 d + q.2 d)
    | _, _ => none

/-- denotation `(φ, F)` of the root-unit expansion `rootRec` with the same fuel (`rootRec_spec_on`) -/
def rootVal (R : Registry) : Nat → UC → Option (Rat × (String → Rat))
  | 0, _ => none
  | n + 1, ref => rootSum (R.rootKeyVal (rootVal R n)) ref

theorem rootSum_cons (kv : String → Option (Rat × (String → Rat))) (k : String) (v : Rat) (t : UC) :
    rootSum kv ((k, v) :: t) = (kv k).bind fun p => (rootSum kv t).map fun q =>
      (zp p.1 v * q.1, fun d => v * p.2 d + q.2 d) := by
  simp only [rootSum]; cases kv k <;> cases rootSum kv t <;> rfl

def kvTot (kv : String → Option (Rat × (String → Rat))) (k : String) : Rat × (String → Rat) :=
  (kv k).getD (1, fun _ => 0)

theorem rootSum_eq_ite (kv : String → Option (Rat × (String → Rat))) (u : UC) :
    rootSum kv u = if u.keys.all (fun k => (kv k).isSome)
      then some (prodOver u fun k => (kvTot kv k).1, fun d => sumOver u fun k => (kvTot kv k).2 d)
      else none := by
  induction u with
  | nil => rfl
  | cons p t ih =>
    rw [rootSum_cons, ih]
    cases hk : kv p.1 <;> simp [hk]
    split <;> simp [sumOver, prodOver, kvTot, hk]

theorem rootKeyVal_ne_zero (R : Registry) {rec : UC → Option (Rat × (String → Rat))}
    (hrec : ∀ ref x, rec ref = some x → x.1 ≠ 0) (k : String) (p : Rat × (String → Rat))
    (h : R.rootKeyVal rec k = some p) : p.1 ≠ 0 := by
  unfold rootKeyVal at h
  split at h
  · split at h
    · cases h; exact (by decide : (1 : Rat) ≠ 0)
    · split at h
      · cases h
      · split at h
        · cases h
        · next hs =>
          obtain ⟨x, hx, rfl⟩ := Option.map_eq_some_iff.mp h
          exact fun h0 => (Rat.mul_eq_zero.1 h0).elim hs (hrec _ _ hx)
  · cases h

theorem kvTot_ne_zero {kv : String → Option (Rat × (String → Rat))}
    (h : ∀ k p, kv k = some p → p.1 ≠ 0) (k : String) : (kvTot kv k).1 ≠ 0 := by
  unfold kvTot
  cases hk : kv k with
  | none => exact (by decide : (1 : Rat) ≠ 0)
  | some p => exact h k p hk

theorem rootVal_ne_zero (R : Registry) : ∀ (n : Nat) (ref : UC) (x : Rat × (String → Rat)),
    R.rootVal n ref = some x → x.1 ≠ 0 := by
  intro n
  induction n with
  | zero => exact fun _ _ h => nomatch h
  | succ n ih =>
    intro ref x h
    simp only [rootVal, rootSum_eq_ite, Option.ite_none_right_eq_some, Option.some.injEq] at h
    exact h.2 ▸ prodOver_ne_zero (kvTot_ne_zero (R.rootKeyVal_ne_zero ih)) ref

/-- `_get_root_units_recurse` on integer exponents fails exactly where the denotation `(φ, F)` is undefined, and
    otherwise multiplies the factor by `φ ^ e` and adds `e • F` to the units. -/
theorem rootRec_spec_on (R : Registry) {S : String → Prop} (hW : R.WFintOn S) :
    ∀ (n : Nat) (ref : UC) (e : Rat) (acc : RootAcc), IntUC ref → KeysIn S ref → e.den = 1 →
    Together (R.rootVal n ref) (R.rootRec n ref e acc) fun x r =>
      r.factor = acc.factor * zp x.1 e ∧ (∀ d, r.units.get d = acc.units.get d + e * x.2 d) ∧
        (acc.units.keys.Nodup → r.units.keys.Nodup) := by
  intro n
  induction n with
  | zero => exact fun _ _ _ _ _ _ => .error _
  | succ n ih =>
    intro ref
    induction ref with
    | nil => exact fun e acc _ _ _ => .ok ⟨by simp [Rat.mul_one], by simp [Rat.mul_zero, Rat.add_zero], id⟩
    | cons p t iht =>
      intro e acc hI hS he
      obtain ⟨k, v⟩ := p
      have hev : (e * v).den = 1 := den_mul he hI.head
      have hstep : Together (R.rootKeyVal (R.rootVal n) k) (R.rootStep (R.rootRec n) e k v acc)
          fun x a' => a'.factor = acc.factor * zp x.1 (e * v) ∧
            (∀ d, a'.units.get d = acc.units.get d + (e * v) * x.2 d) ∧
            (acc.units.keys.Nodup → a'.units.keys.Nodup) := by
        unfold rootKeyVal rootStep
        cases hr : R.resolve k with
        | error x => exact .error _
        | ok pr =>
          obtain ⟨key, _ | d⟩ := pr
          · exact .error _
          · by_cases hb : d.isBase = true <;> simp only [hb, if_true, Bool.false_eq_true, if_false]
            · exact .ok ⟨by simp [Rat.mul_one], get_acc acc.units key (e * v), fun h => nodup_acc h _ _⟩
            · obtain ⟨hI', hK', hs⟩ := hW k hS.head key d hr (by simpa using hb)
              cases hc : d.conv.scaleOf with
              | none => exact .error _
              | some s =>
                simp only [powRat_int (hs s hc) hev, if_neg (hs s hc)]
                refine (ih d.ref (e * v) _ hI' hK' hev).map fun x r ⟨h1, h2⟩ => ⟨?_, h2⟩
                rw [h1, mul_zp, Rat.mul_assoc]
      rw [rootVal, rootSum_cons]
      refine hstep.foldItems_cons (fun a' => iht e a' hI.tail hS.tail he) ?_
      intro x a' y r hx _ ⟨h1, h2, h3⟩ ⟨h4, h5, h6⟩
      refine ⟨?_, fun d => by rw [h5, h2]; grind, h6 ∘ h3⟩
      rw [h4, h1, mul_zp, Rat.mul_comm e v,
        zp_mul (R.rootKeyVal_ne_zero (R.rootVal_ne_zero n) k x hx) hI.head he, Rat.mul_assoc]

/-- `rootRec_spec_on` for `S` = all names, with `Together` written out and `φ ≠ 0` added -/
theorem rootRec_spec (R : Registry) (hW : R.WFint) (n : Nat) (ref : UC) (e : Rat) (acc : RootAcc)
    (hI : IntUC ref) (he : e.den = 1) :
    (∃ φ f r, R.rootVal n ref = some (φ, f) ∧ φ ≠ 0 ∧ R.rootRec n ref e acc = .ok r ∧
        r.factor = acc.factor * φ ^ e.num ∧
        (∀ d, r.units.get d = acc.units.get d + e * f d) ∧
        (acc.units.keys.Nodup → r.units.keys.Nodup)) ∨
    (R.rootVal n ref = none ∧ ∃ err, R.rootRec n ref e acc = .error err) :=
  (R.rootRec_spec_on hW n ref e acc hI (keysIn_true ref) he).imp
    (fun ⟨x, r, hx, hr, h⟩ => ⟨x.1, x.2, r, hx, R.rootVal_ne_zero n ref x hx, hr, h⟩) id

theorem rootVal_merge (R : Registry) (n : Nat) {s : Rat} (hs : s.den = 1) {a b : UC}
    (ha : IntUC a) (hb : IntUC b) (hn : a.keys.Nodup) {xa xb : Rat × (String → Rat)}
    (h1 : R.rootVal n a = some xa) (h2 : R.rootVal n b = some xb) :
    R.rootVal n (merge s a b) = some (xa.1 * zp xb.1 s, fun d => xa.2 d + s * xb.2 d) := by
  cases n with
  | zero => cases h1
  | succ n =>
    have hg := kvTot_ne_zero (R.rootKeyVal_ne_zero (R.rootVal_ne_zero n))
    simp only [rootVal, rootSum_eq_ite, Option.ite_none_right_eq_some, Option.some.injEq,
      List.all_eq_true] at h1 h2 ⊢
    obtain ⟨ka, rfl⟩ := h1
    obtain ⟨kb, rfl⟩ := h2
    exact ⟨fun k hk => (keys_merge_subset hk).elim (ka k) (kb k),
      Prod.ext (prodOver_merge hg hs ha hn hb) (funext fun d => sumOver_merge s hn b _)⟩

theorem rootVal_pow (R : Registry) (n : Nat) {r : Rat} (hr : r.den = 1) {a : UC}
    (ha : IntUC a) {xa : Rat × (String → Rat)} (h1 : R.rootVal n a = some xa) :
    R.rootVal n (a.pow r) = some (zp xa.1 r, fun d => r * xa.2 d) := by
  cases n with
  | zero => cases h1
  | succ n =>
    have hg := kvTot_ne_zero (R.rootKeyVal_ne_zero (R.rootVal_ne_zero n))
    simp only [rootVal, rootSum_eq_ite, Option.ite_none_right_eq_some, Option.some.injEq,
      List.all_eq_true] at h1 ⊢
    obtain ⟨ka, rfl⟩ := h1
    exact ⟨fun k hk => ka k (keys_pow_subset hk), Prod.ext (prodOver_pow hg ha hr) (funext fun d => sumOver_pow a r _)⟩

theorem getRootUnits_spec (R : Registry) {S : String → Prop} (hW : R.WFintOn S) {u : UC}
    (hI : IntUC u) (hK : KeysIn S u) :
    Together (R.rootVal R.fuelOf u) (R.getRootUnits u) fun x r => r.1 = x.1 ∧ ∀ d, r.2.get d = x.2 d := by
  cases u with
  | nil => exact .ok ⟨rfl, fun _ => rfl⟩
  | cons p t =>
    have he : R.getRootUnits (p :: t) = match R.rootRec R.fuelOf (p :: t) 1 {} with
        | .error e => .error e | .ok acc => .ok (acc.factor, acc.units.dropZeros) := rfl
    rw [he]
    rcases R.rootRec_spec_on hW R.fuelOf (p :: t) 1 {} hI hK rfl with
      ⟨x, r, h1, h2, h3, h4, h5⟩ | ⟨h1, err, h2⟩ <;> rw [h1, h2]
    · refine .ok ⟨by rw [h3, zp_one]; exact Rat.one_mul _, fun d => ?_⟩
      rw [get_dropZeros (h5 List.nodup_nil), h4]
      exact (Rat.zero_add _).trans (Rat.one_mul _)
    · exact .error _

theorem getRootUnits_factor_ne_zero_on (R : Registry) {S : String → Prop} (hW : R.WFintOn S)
    {u : UC} (hI : IntUC u) (hK : KeysIn S u) {f : Rat} {us : UC}
    (h : R.getRootUnits u = .ok (f, us)) : f ≠ 0 := by
  obtain ⟨x, hx, rfl, -⟩ := (R.getRootUnits_spec hW hI hK).of_ok h
  exact R.rootVal_ne_zero _ _ x hx

theorem getRootUnits_merge_on (R : Registry) {S : String → Prop} (hW : R.WFintOn S)
    {s : Rat} (hs : s.den = 1) {a b : UC}
    (ha : IntUC a) (hb : IntUC b) (hKa : KeysIn S a) (hKb : KeysIn S b) (hn : a.keys.Nodup)
    {fa fb : Rat} {ua ub : UC}
    (h1 : R.getRootUnits a = .ok (fa, ua)) (h2 : R.getRootUnits b = .ok (fb, ub)) :
    ∃ u, R.getRootUnits (merge s a b) = .ok (fa * zp fb s, u) ∧
      ∀ d, u.get d = ua.get d + s * ub.get d := by
  obtain ⟨xa, va, rfl, (ea : ∀ d, ua.get d = _)⟩ := (R.getRootUnits_spec hW ha hKa).of_ok h1
  obtain ⟨xb, vb, rfl, (eb : ∀ d, ub.get d = _)⟩ := (R.getRootUnits_spec hW hb hKb).of_ok h2
  obtain ⟨⟨f, u⟩, g, rfl, (e : ∀ d, u.get d = _)⟩ :=
    (R.getRootUnits_spec hW (ha.merge hs hb) (hKa.merge (s := s) hKb)).of_some
      (R.rootVal_merge _ hs ha hb hn va vb)
  exact ⟨u, g, fun d => by rw [e, ea, eb]⟩

theorem getRootUnits_mul_on (R : Registry) {S : String → Prop} (hW : R.WFintOn S) {a b : UC}
    (ha : IntUC a) (hb : IntUC b) (hKa : KeysIn S a) (hKb : KeysIn S b) (hn : a.keys.Nodup)
    {fa fb : Rat} {ua ub : UC}
    (h1 : R.getRootUnits a = .ok (fa, ua)) (h2 : R.getRootUnits b = .ok (fb, ub)) :
    ∃ f u, R.getRootUnits (a.mul b) = .ok (f, u) ∧ f = fa * fb ∧
      ∀ d, u.get d = ua.get d + ub.get d := by
  obtain ⟨u, g1, g2⟩ := R.getRootUnits_merge_on hW (s := 1) rfl ha hb hKa hKb hn h1 h2
  exact ⟨_, u, mul_eq_merge a b ▸ g1, by rw [zp_one], fun d => by rw [g2, Rat.one_mul]⟩

theorem getRootUnits_div_on (R : Registry) {S : String → Prop} (hW : R.WFintOn S) {a b : UC}
    (ha : IntUC a) (hb : IntUC b) (hKa : KeysIn S a) (hKb : KeysIn S b) (hn : a.keys.Nodup)
    {fa fb : Rat} {ua ub : UC}
    (h1 : R.getRootUnits a = .ok (fa, ua)) (h2 : R.getRootUnits b = .ok (fb, ub)) :
    ∃ f u, R.getRootUnits (a.div b) = .ok (f, u) ∧ f = fa / fb ∧
      ∀ d, u.get d = ua.get d - ub.get d := by
  obtain ⟨u, g1, g2⟩ := R.getRootUnits_merge_on hW (s := -1) rfl ha hb hKa hKb hn h1 h2
  exact ⟨_, u, div_eq_merge a b ▸ g1, by rw [zp_neg_one, Rat.div_def],
    fun d => by rw [g2, Rat.neg_mul, Rat.one_mul, Rat.sub_eq_add_neg]⟩

theorem getRootUnits_pow_on (R : Registry) {S : String → Prop} (hW : R.WFintOn S) {a : UC}
    (ha : IntUC a) (hKa : KeysIn S a) (n : Int) {fa : Rat} {ua : UC}
    (h1 : R.getRootUnits a = .ok (fa, ua)) :
    ∃ u, R.getRootUnits (a.pow (n : Rat)) = .ok (fa ^ n, u) ∧
      ∀ d, u.get d = (n : Rat) * ua.get d := by
  have hr : ((n : Rat)).den = 1 := rfl
  obtain ⟨xa, va, rfl, (ea : ∀ d, ua.get d = _)⟩ := (R.getRootUnits_spec hW ha hKa).of_ok h1
  obtain ⟨⟨f, u⟩, g, rfl, (e : ∀ d, u.get d = _)⟩ :=
    (R.getRootUnits_spec hW (ha.pow hr) (hKa.pow (n : Rat))).of_some (R.rootVal_pow _ hr ha va)
  exact ⟨u, g, fun d => by rw [e, ea]⟩

/-- `_get_root_units` is multiplicative.  (`b.keys.Nodup` is not needed.) -/
theorem getRootUnits_mul (R : Registry) (hW : R.WFint) {a b : UC}
    (ha : IntUC a) (hb : IntUC b) (hn : a.keys.Nodup) {fa fb : Rat} {ua ub : UC}
    (h1 : R.getRootUnits a = .ok (fa, ua)) (h2 : R.getRootUnits b = .ok (fb, ub)) :
    ∃ f u, R.getRootUnits (a.mul b) = .ok (f, u) ∧ f = fa * fb ∧
      ∀ d, u.get d = ua.get d + ub.get d :=
  R.getRootUnits_mul_on hW ha hb (keysIn_true a) (keysIn_true b) hn h1 h2

/-- (`a.keys.Nodup` is not needed.) -/
theorem getRootUnits_pow (R : Registry) (hW : R.WFint) {a : UC} (ha : IntUC a) (n : Int)
    {fa : Rat} {ua : UC} (h1 : R.getRootUnits a = .ok (fa, ua)) :
    ∃ u, R.getRootUnits (a.pow (n : Rat)) = .ok (fa ^ n, u) ∧
      ∀ d, u.get d = (n : Rat) * ua.get d :=
  R.getRootUnits_pow_on hW ha (keysIn_true a) n h1

theorem getRootUnits_factor_ne_zero (R : Registry) (hW : R.WFint) {u : UC} (hI : IntUC u)
    {f : Rat} {us : UC} (h : R.getRootUnits u = .ok (f, us)) : f ≠ 0 :=
  R.getRootUnits_factor_ne_zero_on hW hI (keysIn_true u) h

/-- `_get_conversion_factor` once both dimensionalities are known -/
theorem convFactor_of_dims (R : Registry) {a b da db : UC}
    (ha : R.getDimensionality a = .ok da) (hb : R.getDimensionality b = .ok db) :
    R.convFactor a b =
      if da.beq db = true then (R.getRootUnits (a.div b)).map (·.1) else .error .dimensionality := by
  unfold convFactor
  rw [ha, hb]
  cases h : da.beq db <;> cases R.getRootUnits (a.div b) <;> simp [h, Except.map]

/-- … and for exact operands: the ratio of the root factors, or `DimensionalityError` -/
theorem convFactor_char (R : Registry) {S : String → Prop} (hW : R.WFintOn S) {a b da db ua ub : UC} {fa fb : Rat}
    (hIa : IntUC a) (hIb : IntUC b) (hKa : KeysIn S a) (hKb : KeysIn S b) (hn : a.keys.Nodup)
    (ha : R.getDimensionality a = .ok da) (hb : R.getDimensionality b = .ok db)
    (ra : R.getRootUnits a = .ok (fa, ua)) (rb : R.getRootUnits b = .ok (fb, ub)) :
    R.convFactor a b = if da.beq db = true then .ok (fa / fb) else .error .dimensionality := by
  obtain ⟨_, u, h1, rfl, _⟩ := R.getRootUnits_div_on hW hIa hIb hKa hKb hn ra rb
  rw [R.convFactor_of_dims ha hb, h1]; rfl

/-- plain `_convert` of exact operands -/
theorem convertPlain_char (R : Registry) {S : String → Prop} (hW : R.WFintOn S) {a b da db ua ub : UC} {fa fb : Rat}
    (hIa : IntUC a) (hIb : IntUC b) (hKa : KeysIn S a) (hKb : KeysIn S b) (hn : a.keys.Nodup)
    (ha : R.getDimensionality a = .ok da) (hb : R.getDimensionality b = .ok db)
    (ra : R.getRootUnits a = .ok (fa, ua)) (rb : R.getRootUnits b = .ok (fb, ub)) (x : Rat) :
    R.convertPlain x a b = if da.beq db = true then .ok (x * (fa / fb)) else .error .dimensionality := by
  rw [convertPlain, R.convFactor_char hW hIa hIb hKa hKb hn ha hb ra rb]
  cases da.beq db <;> rfl

theorem rootStep_mono (R : Registry) {rec1 rec2 : UC → Rat → RootAcc → Except Err RootAcc}
    (h : ∀ ref e a r, rec1 ref e a = .ok r → rec2 ref e a = .ok r)
    (exp : Rat) (k : String) (e : Rat) (a r : RootAcc)
    (hr : R.rootStep rec1 exp k e a = .ok r) : R.rootStep rec2 exp k e a = .ok r := by
  revert hr
  unfold rootStep
  rcases R.resolve k with _ | ⟨key, _ | d⟩ <;> try exact id
  grind

theorem rootRec_mono_le (R : Registry) {n m : Nat} (hnm : n ≤ m) (ref : UC) (e : Rat)
    (acc r : RootAcc) (h : R.rootRec n ref e acc = .ok r) : R.rootRec m ref e acc = .ok r := by
  induction n generalizing m ref e acc r with
  | zero => cases h
  | succ n ih =>
    obtain ⟨m, rfl⟩ : ∃ m', m = m' + 1 := ⟨m - 1, by omega⟩
    exact foldItems_mono (R.rootStep_mono (fun ref e a r => ih (by omega) ref e a r) e) ref acc r h

end Registry
end Pint
