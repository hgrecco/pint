/-
  Lemmas about the `wraps` / `check` model (`Model/Wraps.lean`) used by `Props/C17.lean`.

  The loops of the model that walk two lists in step (`passErr`, `checkCall.go`) return the first error
  over `List.zip`, so what they return is read off `List.findSome?` (`passErr_eq`, `checkGo_eq`);
  `convertAll` and `classifyGo` are described position by position; the unpacking of the converted values
  into the keywords is a loop of assignments (`kwUpd` is `Dict.upsert`, `kwGet_foldl_zip`).
-/
import PintModel.Model.Wraps
import PintModel.Proofs.DictLemmas

namespace Pint.Wraps
open Pint

variable (conv : Rat → UC → UC → Except Err Rat)

theorem mem_zip_iff_getElem? {α β} {l₁ : List α} {l₂ : List β} {a : α} {b : β} :
    (a, b) ∈ l₁.zip l₂ ↔ ∃ i : Nat, l₁[i]? = some a ∧ l₂[i]? = some b := by
  simp [List.mem_iff_getElem?, List.getElem?_zip_eq_some]

theorem packGo_ok {kw : List (String × Val)} {ps : List Param} {extra : List Val}
    (h : pack.go kw ps = .ok extra) :
    extra.length = ps.length ∧ ∀ (j : Nat) p, ps[j]? = some p → extra[j]? = kwGet kw p.name := by
  induction ps generalizing extra with
  | nil => cases h; simp
  | cons p ps ih =>
    simp only [pack.go] at h
    split at h
    next v r hk hg =>
      cases h
      obtain ⟨hl, hi⟩ := ih hg
      refine ⟨by simp [hl], fun j q hq => ?_⟩
      cases j with
      | zero => simp at hq; subst hq; simp [hk]
      | succ j => simp at hq; simpa using hi j q hq
    next => cases h
    next => cases h

theorem packGo_missing {kw : List (String × Val)} {ps : List Param} {p : Param}
    (hp : p ∈ ps) (hk : kwGet kw p.name = none) : pack.go kw ps = .error .key := by
  fun_induction pack.go kw ps <;> grind

theorem pack_ok {sig : Sig} {args values : List Val} {kw : List (String × Val)}
    (h : pack sig args kw = .ok values) :
    ∃ extra, pack.go kw (sig.drop args.length) = .ok extra ∧ values = args ++ extra := by
  simp only [pack] at h
  split at h
  · rename_i extra he
    cases h
    exact ⟨extra, he, rfl⟩
  · cases h

theorem pack_length' {sig : Sig} {args values : List Val} {kw : List (String × Val)}
    (h : pack sig args kw = .ok values) : values.length = args.length + (sig.drop args.length).length := by
  obtain ⟨extra, he, rfl⟩ := pack_ok h
  simp [(packGo_ok he).1]

theorem pack_length {sig : Sig} {args values : List Val} {kw : List (String × Val)}
    (h : pack sig args kw = .ok values) (hl : args.length ≤ sig.length) : values.length = sig.length := by
  rw [pack_length' h, List.length_drop]; omega

theorem pack_missing {sig : Sig} {args : List Val} {kw : List (String × Val)} {p : Param}
    (hp : p ∈ sig.drop args.length) (hk : kwGet kw p.name = none) : pack sig args kw = .error .key := by
  simp only [pack]
  rw [packGo_missing hp hk]

theorem convertAll_length' {strict : Bool} {bn : List (String × Val)} {tags : List Tag} {values : List Val} :
    (convertAll conv strict bn tags values).length = values.length := by
  fun_induction convertAll conv strict bn tags values <;> simp [*]

theorem convertAll_length {strict : Bool} {bn : List (String × Val)} {tags : List Tag} {values : List Val}
    (h : tags.length ≤ values.length) : (convertAll conv strict bn tags values).length = values.length :=
  have _ := h; convertAll_length' conv

theorem convertAll_getElem? {strict : Bool} {bn : List (String × Val)} {tags : List Tag} {values : List Val}
    (i : Nat) :
    (convertAll conv strict bn tags values)[i]? =
      match tags[i]?, values[i]? with
      | some t, some v => some (match convertOne conv strict bn t v with | .ok r => r | .error _ => v)
      | _, o => o := by
  induction tags generalizing values i with
  | nil => simp [convertAll]
  | cons t ts ih =>
    cases values with
    | nil => cases (t :: ts)[i]? <;> simp [convertAll]
    | cons v vs =>
      cases i with
      | zero => cases h : convertOne conv strict bn t v <;> simp [convertAll, h]
      | succ i => simp [convertAll, ih]

theorem convertAll_beyond {strict : Bool} {bn : List (String × Val)} {tags : List Tag} {values : List Val}
    {i : Nat} (hi : tags.length ≤ i) : (convertAll conv strict bn tags values)[i]? = values[i]? := by
  rw [convertAll_getElem?, List.getElem?_eq_none hi]

section passes
variable {strict : Bool} {bn : List (String × Val)} {tags : List Tag} {values : List Val}

theorem passErr_eq {sel : Tag → Bool} :
    passErr conv strict bn sel tags values = (tags.zip values).findSome? fun p =>
      if sel p.1 then (match convertOne conv strict bn p.1 p.2 with | .error e => some e | .ok _ => none)
      else none := by
  induction tags generalizing values with
  | nil => simp [passErr]
  | cons t ts ih =>
    cases values with
    | nil => simp [passErr]
    | cons v vs =>
      simp only [passErr, List.zip_cons_cons, List.findSome?_cons, ← ih]
      split
      · split <;> simp_all
      · rfl

theorem passErr_none {sel : Tag → Bool} (h : passErr conv strict bn sel tags values = none)
    {i : Nat} {t : Tag} {v : Val} (ht : tags[i]? = some t) (hv : values[i]? = some v) (hs : sel t = true) :
    ∃ r, convertOne conv strict bn t v = .ok r := by
  have := List.findSome?_eq_none_iff.1 (passErr_eq conv ▸ h) (t, v) (mem_zip_iff_getElem?.2 ⟨i, ht, hv⟩)
  rw [if_pos hs] at this
  split at this
  · cases this
  · exact ⟨_, ‹_›⟩

theorem passErr_some {sel : Tag → Bool} {e : Err} (h : passErr conv strict bn sel tags values = some e) :
    ∃ (i : Nat) (t : Tag) (v : Val), tags[i]? = some t ∧ values[i]? = some v ∧
      convertOne conv strict bn t v = .error e := by
  obtain ⟨⟨t, v⟩, hm, he⟩ := List.exists_of_findSome?_eq_some (passErr_eq conv ▸ h)
  obtain ⟨i, ht, hv⟩ := mem_zip_iff_getElem?.1 hm
  refine ⟨i, t, v, ht, hv, ?_⟩
  split at he
  · split at he
    · cases he; assumption
    · cases he
  · cases he

/-- the two passes together reach every position: a tag is dependent, a plain unit, or never fails -/
theorem all_ok_of_passes
    (h1 : passErr conv strict bn isDep tags values = none)
    (h2 : passErr conv strict bn isUnit tags values = none)
    {i : Nat} {t : Tag} {v : Val} (ht : tags[i]? = some t) (hv : values[i]? = some v) :
    ∃ r, convertOne conv strict bn t v = .ok r := by
  cases t with
  | skip => exact ⟨_, rfl⟩
  | defn n => exact ⟨_, rfl⟩
  | dep u => exact passErr_none conv h1 ht hv rfl
  | unit u => exact passErr_none conv h2 ht hv rfl

end passes

/-- the unpacking step of `_converter`: `kw[param_name] = values[i]` (the function folded in `converter`) -/
def kwUpd (acc : List (String × Val)) (p : String × Val) : List (String × Val) :=
  if acc.any (·.1 == p.1) then acc.map (fun e => if e.1 == p.1 then (e.1, p.2) else e) else acc ++ [p]

/-- once the arguments are packed, `_converter` either raises the error of some position's conversion
    or every position converts and the converted values are handed back -/
theorem converter_of_pack {tags : List Tag} {sig : Sig} {strict : Bool} {args values : List Val}
    {kw : List (String × Val)} (hp : pack sig args kw = .ok values) :
    (∃ e, converter conv tags sig strict args kw = .error e ∧
      ∃ (i : Nat) (t : Tag) (v : Val), tags[i]? = some t ∧ values[i]? = some v ∧
        convertOne conv strict (namedValues tags values) t v = .error e) ∨
    ((∀ (i : Nat) t v, tags[i]? = some t → values[i]? = some v →
        ∃ r, convertOne conv strict (namedValues tags values) t v = .ok r) ∧
      converter conv tags sig strict args kw =
        .ok ((convertAll conv strict (namedValues tags values) tags values).take args.length,
          ((((sig.drop args.length).map (·.name)).zip
            ((convertAll conv strict (namedValues tags values) tags values).drop args.length)).foldl kwUpd kw),
          namedValues tags values)) := by
  simp only [converter, hp]
  split
  · exact .inl ⟨_, rfl, passErr_some conv ‹_›⟩
  · split
    · exact .inl ⟨_, rfl, passErr_some conv ‹_›⟩
    · exact .inr ⟨fun i t v ht hv => all_ok_of_passes conv ‹_› ‹_› ht hv, rfl⟩

theorem kwGet_nil (n : String) : kwGet [] n = none := rfl

theorem kwGet_eq_find? (kw : List (String × Val)) (n : String) : kwGet kw n = Dict.find? kw n :=
  Dict.map_find?_eq kw n

/-- the model writes `(e.1, p.2)` for the new entry, where `e.1 == p.1` -/
theorem kwUpd_eq_upsert (acc : List (String × Val)) (p : String × Val) : kwUpd acc p = Dict.upsert acc p := by
  unfold kwUpd Dict.upsert
  congr 2; funext e; split
  · next h => rw [show e.1 = p.1 from eq_of_beq h]
  · rfl

theorem find?_kwUpd (acc : List (String × Val)) (p : String × Val) (k : String) :
    Dict.find? (kwUpd acc p) k = if p.1 = k then some p.2 else Dict.find? acc k :=
  kwUpd_eq_upsert acc p ▸ Dict.find?_upsert acc p k

/-- writing a list of values back under distinct names: each name then holds its value -/
theorem kwGet_foldl_zip {names : List String} {vals : List Val} (kw : List (String × Val))
    (hn : names.Nodup) (hl : names.length ≤ vals.length) {j : Nat} {n : String} (hj : names[j]? = some n) :
    kwGet ((names.zip vals).foldl kwUpd kw) n = vals[j]? := by
  have hjlt : j < vals.length := Nat.lt_of_lt_of_le (List.getElem?_eq_some_iff.1 hj).1 hl
  have hf : LoadLemmas.KeyFunctional (names.zip vals) :=
    LoadLemmas.keyFunctional_of_nodup (by rwa [List.map_fst_zip hl])
  have hm : (n, vals[j]) ∈ names.zip vals :=
    List.mem_iff_getElem?.mpr ⟨j, List.getElem?_zip_eq_some.mpr ⟨hj, List.getElem?_eq_getElem hjlt⟩⟩
  rw [kwGet_eq_find?, hf.find?_foldl find?_kwUpd, hf.find?_eq_some_iff.mpr hm, List.getElem?_eq_getElem hjlt]
  rfl

theorem classifyGo_cons (s : Spec) (t : List Spec) (defs : List String) :
    ∃ tag defs', classifyGo [s] defs = [tag] ∧ classifyGo (s :: t) defs = tag :: classifyGo t defs' := by
  cases s with
  | none => exact ⟨_, _, rfl, rfl⟩
  | unit u => exact ⟨_, _, rfl, rfl⟩
  | ref u =>
    simp only [classifyGo]
    split
    · split <;> exact ⟨_, _, rfl, rfl⟩
    · exact ⟨_, _, rfl, rfl⟩

theorem classifyGo_length (specs : List Spec) (defs : List String) : (classifyGo specs defs).length = specs.length := by
  induction specs generalizing defs with
  | nil => rfl
  | cons s t ih =>
    obtain ⟨_, _, _, h⟩ := classifyGo_cons s t defs
    simp [h, ih]

/-- the tag of a position is the tag its specification gets on its own, under the definitions seen so far -/
theorem classifyGo_getElem? {specs : List Spec} {i : Nat} {s : Spec} (h : specs[i]? = some s)
    (defs : List String) : ∃ defs', (classifyGo specs defs)[i]? = (classifyGo [s] defs').head? := by
  induction specs generalizing defs i with
  | nil => simp at h
  | cons s' t ih =>
    obtain ⟨tag, d, h1, h2⟩ := classifyGo_cons s' t defs
    cases i with
    | zero =>
      simp at h; subst h
      exact ⟨defs, by rw [h1, h2]; rfl⟩
    | succ i =>
      obtain ⟨d', hd'⟩ := ih (by simpa using h) d
      exact ⟨d', by rw [h2]; simpa using hd'⟩

theorem checkGo_eq {dimOf : Val → Except Err UC} (dims : List (Option UC)) (values : List Val) :
    checkCall.go dimOf dims values =
      match (dims.zip values).findSome? fun p => p.1.bind fun d =>
        (match dimOf p.2 with
          | .error e => some e
          | .ok dv => if dv.beq d then none else some .dimensionality) with
      | none => .ok ()
      | some e => .error e := by
  induction dims generalizing values with
  | nil => simp [checkCall.go]
  | cons o ds ih =>
    cases values with
    | nil => cases o <;> simp [checkCall.go]
    | cons v vs =>
      cases o with
      | none => simp [checkCall.go, ih]
      | some d =>
        cases h : dimOf v with
        | error e => simp [checkCall.go, h]
        | ok dv => cases hb : dv.beq d <;> simp [checkCall.go, h, hb, ih]

def Mismatch (dimOf : Val → Except Err UC) (dims : List (Option UC)) (values : List Val) : Prop :=
  ∃ (i : Nat) (d : UC) (v : Val) (dv : UC), dims[i]? = some (some d) ∧ values[i]? = some v ∧ dimOf v = .ok dv ∧ dv.beq d = false

theorem checkGo_spec {dimOf : Val → Except Err UC} {dims : List (Option UC)} {values : List Val}
    (hd : ∀ v ∈ values, ∃ d, dimOf v = .ok d) :
    (checkCall.go dimOf dims values = .ok () ∧ ¬ Mismatch dimOf dims values) ∨
    (checkCall.go dimOf dims values = .error .dimensionality ∧ Mismatch dimOf dims values) := by
  rw [checkGo_eq]
  split
  · rename_i hf
    refine .inl ⟨rfl, fun ⟨i, d, v, dv, hi, hv, h1, h2⟩ => ?_⟩
    have := List.findSome?_eq_none_iff.1 hf (some d, v) (mem_zip_iff_getElem?.2 ⟨i, hi, hv⟩)
    simp [h1, h2] at this
  · rename_i e hf
    obtain ⟨⟨o, v⟩, hm, he⟩ := List.exists_of_findSome?_eq_some hf
    obtain ⟨i, hi, hv⟩ := mem_zip_iff_getElem?.1 hm
    obtain ⟨dv, hdv⟩ := hd v (List.mem_of_getElem? hv)
    cases o with
    | none => cases he
    | some d =>
      simp only [Option.bind_some, hdv] at he
      split at he
      · cases he
      · cases he
        exact .inr ⟨rfl, i, d, v, dv, hi, hv, hdv, Bool.eq_false_iff.2 ‹_›⟩

end Pint.Wraps
