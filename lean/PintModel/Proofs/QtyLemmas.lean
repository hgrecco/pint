/-
  Arithmetic on MULTIPLICATIVE quantities depends only on the operands' physical value
  ("covariance under change of units").

  Between good units `convert` multiplies by the ratio of the root factors or raises `DimensionalityError`
  (`convert_char`), and every magnitude operator is homogeneous (`*.app_scale`, `pyFloorDiv_scale`,
  `pyMod_scale`).  So the result of each operator of `Model/Quantity.lean` can be expressed through the physical
  values `mag * factor` of the operands: one statement per operator, off which `Props/C03` and `Props/C05` read
  covariance, equality, order and hashing.
-/
import PintModel.Model.Quantity
import PintModel.Proofs.RootLemmas
import PintModel.Proofs.DimLemmas
import PintModel.Props.C04

namespace Pint
open UC RatPow Registry
open Pint.Props

/-- every key is a registered canonical multiplicative unit -/
def Registered (R : Registry) (u : UC) : Prop :=
  ∀ k ∈ u.keys, ∃ d, R.units.find? k = some d ∧ R.units.find? d.name = some d ∧
    d.isMult = true ∧ k ≠ "dimensionless"

/-- the hypotheses under which arithmetic on a units container is exact: integer exponents, keys in the closed set
    `S`, canonical, registered multiplicative units, root expansion `(f, ru)` and dimensionality `d` defined -/
structure GoodU (R : Registry) (S : String → Prop) (u : UC) (f : Rat) (ru : UC) (d : UC) : Prop where
  int : IntUC u
  keys : KeysIn S u
  canon : u.Canon
  reg : Registered R u
  root : R.getRootUnits u = .ok (f, ru)
  dim : R.getDimensionality u = .ok d

/-- the same for a quantity (only its units matter) -/
abbrev Good (R : Registry) (S : String → Prop) (q : Qty) (f : Rat) (ru : UC) (d : UC) : Prop :=
  GoodU R S q.units f ru d

/-- physical magnitude in root units -/
def rootMag (q : Qty) (f : Rat) : Rat := q.mag * f

/-- decidable form of `GoodU R (· ∈ L)` (for concrete registries) -/
def goodUB (R : Registry) (L : List String) (u : UC) (f : Rat) (ru d : UC) : Bool :=
  u.all (fun p => p.2.den == 1 && p.2 != 0 && L.contains p.1) && decide u.keys.Nodup &&
  u.keys.all (fun k =>
    match R.units.find? k with
    | some d => R.units.find? d.name == some d && d.isMult && k != "dimensionless"
    | none => false) &&
  (R.getRootUnits u).toOption == some (f, ru) && (R.getDimensionality u).toOption == some d

theorem GoodU.of_B {R : Registry} {L : List String} {u ru d : UC} {f : Rat}
    (h : goodUB R L u f ru d = true) : GoodU R (· ∈ L) u f ru d := by
  simp only [goodUB, Bool.and_eq_true, List.all_eq_true, beq_iff_eq, bne_iff_ne, ne_eq,
    List.contains_iff_mem, decide_eq_true_eq] at h
  obtain ⟨⟨⟨⟨h1, h2⟩, h3⟩, h4⟩, h5⟩ := h
  refine ⟨fun p hp => (h1 p hp).1.1, fun k hk => ?_, ⟨h2, fun p hp => (h1 p hp).1.2⟩,
    fun k hk => ?_, Except.eq_ok_of_toOption h4, Except.eq_ok_of_toOption h5⟩
  · obtain ⟨p, hp, rfl⟩ := List.mem_map.mp hk
    exact (h1 p hp).2
  · have := h3 k hk
    split at this
    · next d hd => exact ⟨d, hd, by simpa [and_assoc] using this⟩
    · cases this

theorem Registered.nil (R : Registry) : Registered R [] := fun _ hk => by cases hk

section
variable {R : Registry} {u : UC}

theorem Registered.tail {p : String × Rat} {t : UC} (h : Registered R (p :: t)) :
    Registered R t := fun k hk => h k (by simp [hk])

theorem unitIsMult_registered (h : Registered R u) {k : String} (hk : k ∈ u.keys) :
    R.unitIsMult k = true := by
  obtain ⟨d, h1, h2, h3, h4⟩ := h k hk
  simp [Registry.unitIsMult, Registry.resolve, h1, h2, h3, h4]

theorem nonMultUnits_nil (h : Registered R u) : R.nonMultUnits u = [] := by
  unfold Registry.nonMultUnits
  rw [List.filter_eq_nil_iff]
  intro k hk
  simp [unitIsMult_registered h hk]

theorem isMultQ_registered {q : Qty} (h : Registered R q.units) : R.isMultQ q = true := by
  unfold Registry.isMultQ; rw [nonMultUnits_nil h]; rfl

theorem nonMultItems_nil (h : Registered R u) : R.nonMultItems u = .ok [] := by
  induction u with
  | nil => rfl
  | cons p t ih =>
    obtain ⟨d, h1, _, h3, _⟩ := h p.1 (by simp [UC.keys])
    simp [Registry.nonMultItems, Registry.isMultName, h1, h3, ih h.tail]

theorem convert_mult {src dst : UC} (hs : Registered R src) (hd : Registered R dst)
    (x : Rat) (auto : Bool) :
    R.convert x src dst auto = if src.beq dst then .ok x else R.convertPlain x src dst := by
  simp [Registry.convert, Registry.convertNM, Registry.validateAndExtract, nonMultItems_nil hs,
    nonMultItems_nil hd]

end

theorem div_eq_nil_of_beq {a b : UC} (ha : a.Canon) (hb : b.Canon) (h : a.beq b = true) :
    a.div b = [] := by
  apply C04.canon_dimensionless (C04.canon_div ha b)
  intro k
  rw [C04.exp_div a hb.1, (C04.eq_iff ha hb).mp h k]
  simp [Rat.sub_self]

section
variable {R : Registry} {S : String → Prop} {a b ua ub da db : UC} {fa fb : Rat}

theorem GoodU.factor_ne_zero (hW : R.WFintOn S) (h : GoodU R S a fa ua da) : fa ≠ 0 :=
  R.getRootUnits_factor_ne_zero_on hW h.int h.keys h.root

theorem GoodU.dim_canon (h : GoodU R S a fa ua da) : da.Canon := R.getDim_canon h.dim

theorem GoodU.root_div (hW : R.WFintOn S) (ha : GoodU R S a fa ua da) (hb : GoodU R S b fb ub db) :
    ∃ u, R.getRootUnits (a.div b) = .ok (fa / fb, u) := by
  obtain ⟨_, u, h1, rfl, _⟩ :=
    R.getRootUnits_div_on hW ha.int hb.int ha.keys hb.keys ha.canon.1 ha.root hb.root
  exact ⟨u, h1⟩

/-- `==` units have the same root factor and `==` dimensionality: their quotient is the empty
    container, whose root factor is 1 and whose dimensionality is empty -/
theorem GoodU.congr (hW : R.WFintOn S) (ha : GoodU R S a fa ua da) (hb : GoodU R S b fb ub db)
    (h : a.beq b = true) : fa = fb ∧ da.beq db = true := by
  have hnil := div_eq_nil_of_beq ha.canon hb.canon h
  constructor
  · obtain ⟨u, h1⟩ := ha.root_div hW hb
    rw [hnil] at h1
    have h2 : (1 : Rat) = fa / fb := congrArg Prod.fst (Except.ok.inj h1)
    calc fa = fa / fb * fb := (Rat.div_mul_cancel (hb.factor_ne_zero hW)).symm
      _ = fb := by rw [← h2, Rat.one_mul]
  · obtain ⟨dab, h1, _, h3⟩ := R.getDim_merge (-1) ha.canon.1 ha.dim hb.dim
    rw [← div_eq_merge, hnil] at h1
    cases h1
    apply (C04.eq_iff ha.dim_canon hb.dim_canon).mpr
    intro k
    have := h3 k
    simp only [get_nil] at this
    grind

/-- The `src == dst` shortcut of `convert` agrees with the general formula: the ratio is 1 there (`GoodU.congr`). -/
theorem convert_char (hW : R.WFintOn S) (ha : GoodU R S a fa ua da) (hb : GoodU R S b fb ub db)
    (x : Rat) (auto : Bool) :
    R.convert x a b auto =
      if da.beq db = true then .ok (x * (fa / fb)) else .error .dimensionality := by
  rw [convert_mult ha.reg hb.reg]
  by_cases h : a.beq b = true
  · obtain ⟨rfl, hd⟩ := ha.congr hW hb h
    rw [if_pos h, if_pos hd, Rat.div_def, Rat.mul_inv_cancel _ (hb.factor_ne_zero hW), Rat.mul_one]
  · rw [if_neg h]
    exact R.convertPlain_char hW ha.int hb.int ha.keys hb.keys ha.canon.1 ha.dim hb.dim ha.root hb.root x

end

theorem rat_mul_right_cancel_iff {x y f : Rat} (hf : f ≠ 0) : x * f = y * f ↔ x = y :=
  ⟨fun h => by simpa only [Rat.mul_div_cancel hf] using congrArg (· / f) h, fun h => by rw [h]⟩

/-- a converted magnitude `x * (f / g)` times the factor `g` of the new units is the physical value -/
theorem rat_conv_mul (x f : Rat) {g : Rat} (hg : g ≠ 0) : x * (f / g) * g = x * f := by
  rw [Rat.mul_assoc, Rat.div_mul_cancel hg]

theorem rat_mul_eq_zero_left {x f : Rat} (hf : f ≠ 0) : x * f = 0 ↔ x = 0 := by
  rw [Rat.mul_eq_zero]; exact ⟨fun h => h.resolve_right hf, Or.inl⟩

theorem AddOp.app_scale (op : AddOp) (x y f : Rat) : op.app x y * f = op.app (x * f) (y * f) := by
  cases op <;> simp only [AddOp.app] <;> grind

theorem CmpOp.app_scale (op : CmpOp) (x y : Rat) {f : Rat} (hf : 0 < f) :
    op.app (x * f) (y * f) = op.app x y := by
  have hlt : ∀ u v : Rat, u * f < v * f ↔ u < v := fun u v => Rat.mul_lt_mul_right hf
  have hle : ∀ u v : Rat, u * f ≤ v * f ↔ u ≤ v := fun u v => by
    rw [← Rat.not_lt, ← Rat.not_lt, hlt]
  cases op <;> simp only [CmpOp.app, GT.gt, GE.ge, hlt, hle]

theorem pyFloorDiv_scale (x y : Rat) {f : Rat} (hf : f ≠ 0) :
    pyFloorDiv (x * f) (y * f) = pyFloorDiv x y := by
  have : x * f / (y * f) = x / y := by
    rw [Rat.div_def, Rat.inv_mul_rev, Rat.mul_assoc, ← Rat.mul_assoc f, Rat.mul_inv_cancel _ hf,
      Rat.one_mul, ← Rat.div_def]
  unfold pyFloorDiv; rw [this]

theorem pyMod_scale (x y : Rat) {f : Rat} (hf : f ≠ 0) :
    pyMod (x * f) (y * f) = pyMod x y * f := by
  unfold pyMod; rw [pyFloorDiv_scale x y hf]; grind

/-- the F58 guard of `//`, `%` and `divmod` leaves multiplicative operands alone -/
theorem offsetFree_num_mult {R : Registry} (m : Mode) {a : Qty} (x : Rat)
    (ha : R.isMultQ a = true) :
    R.offsetFree m a (.num x) = .ok (a, .num x) := by
  unfold Registry.offsetFree
  simp [Registry.operandsMult, ha]

theorem offsetFree_registered {R : Registry} (m : Mode) {a b : Qty}
    (ha : Registered R a.units) (hb : Registered R b.units) :
    R.offsetFree m a (.q b) = .ok (a, .q b) := by
  simp [Registry.offsetFree, Registry.operandsMult, isMultQ_registered ha, isMultQ_registered hb]

theorem mulDiv_registered {R : Registry} (m : Mode) (op : MulOp) {a b : Qty}
    (ha : Registered R a.units) (hb : Registered R b.units) :
    R.mulDiv m op a (.q b) =
      match op with
      | .mul => .ok ⟨a.mag * b.mag, a.units.mul b.units⟩
      | .div => if b.mag = 0 then .error .zeroDiv else .ok ⟨a.mag / b.mag, a.units.div b.units⟩ := by
  cases op <;>
    simp [Registry.mulDiv, nonMultUnits_nil ha, nonMultUnits_nil hb, Registry.okForMuldiv,
      Registry.rootIfSingleOffset]

theorem mulDiv_div_zero {R : Registry} (m : Mode) {a b : Qty}
    (ha : Registered R a.units) (hb : Registered R b.units) (hz : b.mag = 0) :
    R.mulDiv m .div a (.q b) = .error .zeroDiv := by
  rw [mulDiv_registered m .div ha hb]; exact if_pos hz

/-- under `a.units == b.units` no hypothesis on the root units is needed -/
theorem compare_phys_partial {R : Registry} {S : String → Prop} (hW : R.WFintOn S) (m : Mode)
    (op : CmpOp) {a b : Qty} {ua ub da db : UC} {fa fb : Rat}
    (ha : Good R S a fa ua da) (hb : Good R S b fb ub db) (h1 : a.units.beq b.units = true)
    (hpos : 0 < fa) :
    R.compare m op a (.q b) = .ok (op.app (a.mag * fa) (b.mag * fb)) := by
  simp only [Registry.compare, h1, if_true]
  rw [← (GoodU.congr hW ha hb h1).1, CmpOp.app_scale op _ _ hpos]

/-- Hypothesis on the root units `ua` of a good container of dimensionality `da`, needed wherever the model calls
    `to_root_units()` (`toRoot`: `compare`, `hashKey`): the root units are themselves good, expand with factor `1`,
    and have the same dimensionality.  This holds for every registry whose base units are plain multiplicative
    units (a base unit resolves to itself with `isBase = true`, so `rootStep` contributes factor `1`); it is a
    hypothesis because neither idempotence of `getRootUnits` nor preservation of dimensionality by the root
    expansion is proved in `RootLemmas` / `DimLemmas`. -/
def RootGood (R : Registry) (S : String → Prop) (ua da : UC) : Prop :=
  ∃ uu du, GoodU R S ua 1 uu du ∧ da.beq du = true

section
variable {R : Registry} {S : String → Prop} (hW : R.WFintOn S) (m : Mode) {a b : Qty}
  {ua ub da db : UC} {fa fb : Rat} (ha : Good R S a fa ua da) (hb : Good R S b fb ub db)
include hW ha hb

/-- `a.to(b.units).magnitude` -/
theorem convertTo_char :
    R.convertTo m a b.units =
      if da.beq db = true then .ok (a.mag * (fa / fb)) else .error .dimensionality :=
  convert_char hW ha hb _ _

theorem mul_phys :
    ∃ c fc uc, R.mulDiv m .mul a (.q b) = .ok c ∧ R.getRootUnits c.units = .ok (fc, uc) ∧
      c.mag * fc = (a.mag * fa) * (b.mag * fb) := by
  obtain ⟨_, u, h1, rfl, _⟩ :=
    R.getRootUnits_mul_on hW ha.int hb.int ha.keys hb.keys ha.canon.1 ha.root hb.root
  refine ⟨_, _, u, mulDiv_registered m .mul ha.reg hb.reg, h1, ?_⟩
  show a.mag * b.mag * (fa * fb) = _
  grind

theorem div_phys (hz : b.mag ≠ 0) :
    ∃ c fc uc, R.mulDiv m .div a (.q b) = .ok c ∧ R.getRootUnits c.units = .ok (fc, uc) ∧
      c.mag * fc = (a.mag * fa) / (b.mag * fb) := by
  obtain ⟨u, h1⟩ := ha.root_div hW hb
  refine ⟨_, _, u, (mulDiv_registered m .div ha.reg hb.reg).trans (if_neg hz), h1, ?_⟩
  show a.mag / b.mag * (fa / fb) = _
  simp only [Rat.div_def, Rat.inv_mul_rev]
  grind

/-- `+` and `-` succeed on equal dimensionalities; the result is in the units of the left operand,
    or (only if that has a `delta_` unit) of the right one, and its physical value is the sum /
    difference of the physical values -/
theorem addSub_good (op : AddOp) (he : da.beq db = true) :
    ∃ c, R.addSub m op a (.q b) = .ok c ∧
      (c.units = a.units ∧ c.mag * fa = op.app (a.mag * fa) (b.mag * fb) ∨
       deltaUnits a.units ≠ [] ∧ c.units = b.units ∧
         c.mag * fb = op.app (a.mag * fa) (b.mag * fb)) := by
  have he' : db.beq da = true := beq_comm da db ▸ he
  unfold Registry.addSub
  simp only [ha.dim, hb.dim, he, nonMultUnits_nil ha.reg, nonMultUnits_nil hb.reg,
    convertTo_char hW m ha hb, convertTo_char hW m hb ha, he']
  by_cases h1 : a.units.beq b.units = true
  · refine ⟨⟨op.app a.mag b.mag, a.units⟩, by simp [h1], Or.inl ⟨rfl, ?_⟩⟩
    rw [← (ha.congr hW hb h1).1]
    exact AddOp.app_scale op _ _ _
  · by_cases h2 : (!(deltaUnits a.units).isEmpty && (deltaUnits b.units).isEmpty) = true
    · refine ⟨⟨op.app (a.mag * (fa / fb)) b.mag, b.units⟩, by simp [h1, h2], Or.inr ⟨?_, rfl, ?_⟩⟩
      · intro h; simp [h] at h2
      · show op.app (a.mag * (fa / fb)) b.mag * fb = _
        rw [AddOp.app_scale, rat_conv_mul _ _ (hb.factor_ne_zero hW)]
    · refine ⟨⟨op.app a.mag (b.mag * (fb / fa)), a.units⟩, by simp [h1, h2], Or.inl ⟨rfl, ?_⟩⟩
      show op.app a.mag (b.mag * (fb / fa)) * fa = _
      rw [AddOp.app_scale, rat_conv_mul _ _ (ha.factor_ne_zero hW)]

theorem qeq_char :
    R.qeq m a (.q b) = .ok (decide (da.beq db = true ∧ a.mag * fa = b.mag * fb)) := by
  have hna := ha.factor_ne_zero hW
  have hnb := hb.factor_ne_zero hW
  unfold Registry.qeq
  simp only [isMultQ_registered ha.reg, isMultQ_registered hb.reg, ha.dim, hb.dim,
    convertTo_char hW m ha hb]
  by_cases hz : a.mag = 0 ∧ b.mag = 0
  · simp [hz.1, hz.2, Rat.zero_mul]
  · by_cases h1 : a.units.beq b.units = true
    · obtain ⟨rfl, hd⟩ := ha.congr hW hb h1
      simp [hz, h1, hd, rat_mul_right_cancel_iff hna, Bool.beq_eq_decide_eq]
    · cases he : da.beq db
      · simp [hz, h1]
      · simp [hz, h1, ← rat_conv_mul a.mag fa hnb, rat_mul_right_cancel_iff hnb, Bool.beq_eq_decide_eq]

theorem qeq_true_iff :
    R.qeq m a (.q b) = .ok true ↔ da.beq db = true ∧ a.mag * fa = b.mag * fb := by
  rw [qeq_char hW m ha hb, Except.ok.injEq, decide_eq_true_eq]

omit hb in
theorem toRoot_good (hr : RootGood R S ua da) : R.toRoot m a = .ok ⟨a.mag * fa, ua⟩ := by
  obtain ⟨uu, du, hu, hd⟩ := hr
  have hu' : Good R S ⟨0, ua⟩ 1 uu du := hu
  have h1 : fa / 1 = fa := by grind
  unfold Registry.toRoot
  simp only [ha.root, convertTo_char hW m ha hu', hd, if_true, h1]

/-- `<`, `<=`, `>`, `>=`: the order of the physical values.  `0 < fa` is needed on the `units ==`
    shortcut (there `fa = fb`), `RootGood` where the model goes through `to_root_units` -/
theorem compare_char (op : CmpOp) (hpos : 0 < fa) (hra : RootGood R S ua da)
    (hrb : RootGood R S ub db) :
    R.compare m op a (.q b) =
      if da.beq db = true then .ok (op.app (a.mag * fa) (b.mag * fb))
      else .error .dimensionality := by
  by_cases h1 : a.units.beq b.units = true
  · rw [compare_phys_partial hW m op ha hb h1 hpos, if_pos (ha.congr hW hb h1).2]
  · unfold Registry.compare
    simp only [if_neg h1, ha.dim, hb.dim, toRoot_good hW m ha hra, toRoot_good hW m hb hrb]
    cases da.beq db <;> rfl

omit hb in
theorem hashKey_good (hr : RootGood R S ua da) :
    ∃ du, R.getDimensionality ua = .ok du ∧ R.hashKey m a = .ok (a.mag * fa, du) := by
  have ht := toRoot_good hW m ha hr
  obtain ⟨uu, du, hg, _⟩ := hr
  refine ⟨du, hg.dim, ?_⟩
  unfold Registry.hashKey
  simp only [ht, hg.dim]

theorem floordiv_char :
    R.floordiv m a (.q b) =
      if da.beq db = true then
        (if b.mag * fb = 0 then .error .zeroDiv
         else .ok ⟨pyFloorDiv (a.mag * fa) (b.mag * fb), []⟩)
      else .error .dimensionality := by
  have hna := ha.factor_ne_zero hW
  unfold Registry.floordiv
  simp only [offsetFree_registered m ha.reg hb.reg, convertTo_char hW m hb ha, beq_comm db da]
  cases da.beq db
  · rfl
  · simp only [if_true, ← rat_conv_mul b.mag fb hna, rat_mul_eq_zero_left hna, pyFloorDiv_scale _ _ hna]

theorem mod_phys (he : da.beq db = true) (hz : b.mag ≠ 0) :
    ∃ c, R.mod m a (.q b) = .ok c ∧ c.units = a.units ∧
      c.mag * fa = pyMod (a.mag * fa) (b.mag * fb) := by
  have hna := ha.factor_ne_zero hW
  have hv : b.mag * (fb / fa) ≠ 0 := fun h => hz <|
    (rat_mul_eq_zero_left (hb.factor_ne_zero hW)).mp (by rw [← rat_conv_mul _ _ hna, h, Rat.zero_mul])
  refine ⟨⟨pyMod a.mag (b.mag * (fb / fa)), a.units⟩, ?_, rfl, ?_⟩
  · unfold Registry.mod
    simp only [offsetFree_registered m ha.reg hb.reg, convertTo_char hW m hb ha, beq_comm db da, he,
      if_true, hv, if_false]
  · show pyMod a.mag (b.mag * (fb / fa)) * fa = _
    rw [← pyMod_scale _ _ hna, rat_conv_mul _ _ hna]

end

/-- when the left operand has no `delta_` unit the result is in the left operand's units -/
theorem add_phys_left {R : Registry} {S : String → Prop} (hW : R.WFintOn S) (m : Mode)
    (op : AddOp) {a b c : Qty} {ua ub da db : UC} {fa fb : Rat}
    (ha : Good R S a fa ua da) (hb : Good R S b fb ub db)
    (hd : deltaUnits a.units = [])
    (hc : R.addSub m op a (.q b) = .ok c) (he : da.beq db = true) :
    c.units = a.units ∧ c.mag * fa = op.app (a.mag * fa) (b.mag * fb) := by
  obtain ⟨c', h, h' | h'⟩ := addSub_good hW m ha hb op he
  · rw [h] at hc; cases hc; exact h'
  · exact absurd hd h'.1

/-- ordering across dimensions raises `DimensionalityError`: only the two dimensionalities are needed, not `Good` -/
theorem compare_dim_error' {R : Registry} (m : Mode) (op : CmpOp) {a b : Qty} {da db : UC}
    (ha : R.getDimensionality a.units = .ok da) (hb : R.getDimensionality b.units = .ok db)
    (he : da.beq db = false) (h1 : ¬ a.units.beq b.units = true) :
    R.compare m op a (.q b) = .error .dimensionality := by
  unfold Registry.compare; simp [h1, ha, hb, he]

/-- floor division is the floor of the ratio of the physical values -/
theorem floordiv_phys {R : Registry} {S : String → Prop} (hW : R.WFintOn S) (m : Mode)
    {a b : Qty} {ua ub da db : UC} {fa fb : Rat}
    (ha : Good R S a fa ua da) (hb : Good R S b fb ub db) (he : da.beq db = true)
    (hz : b.mag ≠ 0) :
    R.floordiv m a (.q b) = .ok ⟨pyFloorDiv (a.mag * fa) (b.mag * fb), []⟩ := by
  rw [floordiv_char hW m ha hb, if_pos he,
    if_neg (mt (rat_mul_eq_zero_left (hb.factor_ne_zero hW)).mp hz)]

end Pint
