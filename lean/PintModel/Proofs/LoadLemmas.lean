/-
  Order independence of the model's loader (`Registry.loadInto`, `Registry.load`).

  Every table `loadInto` builds is a fold over the lines: of `Dict.insert` for units and prefixes,
  of "set" and "add if missing" events for dimensions, of `++` for the base units.  A definition's
  contribution to the four folds is its `Eff`; `Applies R R' e` says that `R'` is `R` after `e`.
  What a lookup sees after such a fold is characterised once (`find?_insertAll`, `find?_applyEvs`),
  and order independence, "exactly what is declared" and "untouched otherwise" are read off.
-/
import PintModel.Model.Load
import PintModel.Proofs.DictLemmas

namespace Pint.LoadLemmas
open Pint Pint.Registry

variable {α : Type}

/-- the fold the tables are built with -/
def insertAll (d : Dict α) (kvs : List (String × α)) : Dict α :=
  kvs.foldl (fun (acc : Dict α) p => Dict.insert acc p.1 p.2) d

theorem insertAll_nil (d : Dict α) : insertAll d [] = d := rfl
theorem insertAll_cons (d : Dict α) (p : String × α) (t : List (String × α)) :
    insertAll d (p :: t) = insertAll (d.insert p.1 p.2) t := rfl
theorem insertAll_append (d : Dict α) (a b : List (String × α)) :
    insertAll d (a ++ b) = insertAll (insertAll d a) b := List.foldl_append

/-- the last insert for a key wins; a key that is not inserted keeps its old value -/
theorem find?_insertAll (d : Dict α) (kvs : List (String × α)) (k : String) :
    (insertAll d kvs).find? k = (Dict.find? kvs.reverse k).or (d.find? k) :=
  Dict.find?_foldl (fun d p k => Dict.find?_insert d p.1 p.2 k) kvs d k

theorem KeyFunctional.find?_insertAll {kvs : List (String × α)} (hf : KeyFunctional kvs) (d : Dict α)
    (k : String) : (insertAll d kvs).find? k = (Dict.find? kvs k).or (d.find? k) :=
  hf.find?_foldl (fun d p k => Dict.find?_insert d p.1 p.2 k) d k

theorem find?_insertAll_of_not_mem {kvs : List (String × α)} {k : String}
    (h : k ∉ kvs.map (·.1)) (d : Dict α) : (insertAll d kvs).find? k = d.find? k := by
  rw [find?_insertAll, Dict.find?_eq_none_iff.mpr, Option.none_or]
  rwa [List.map_reverse, List.mem_reverse]

theorem find?_insertAll_of_mem {kvs : List (String × α)} (hf : KeyFunctional kvs) {k : String} {v : α}
    (hm : (k, v) ∈ kvs) (d : Dict α) : (insertAll d kvs).find? k = some v := by
  rw [hf.find?_insertAll, hf.find?_eq_some_iff.mpr hm]; rfl

theorem find?_insertAll_iff {kvs : List (String × α)} (hf : KeyFunctional kvs) {d : Dict α} {k : String}
    (hd : d.find? k = none) (v : α) : (insertAll d kvs).find? k = some v ↔ (k, v) ∈ kvs := by
  rw [hf.find?_insertAll, hd, Option.or_none, hf.find?_eq_some_iff]

theorem find?_insertAll_perm {kvs kvs' : List (String × α)} (hf : KeyFunctional kvs)
    (hp : kvs.Perm kvs') (d : Dict α) (k : String) :
    (insertAll d kvs).find? k = (insertAll d kvs').find? k := by
  rw [hf.find?_insertAll, (hf.perm hp).find?_insertAll, hf.find?_perm hp]

/-- an event on the dimension table: `(n, some v)` = `dims[n] = v`, `(n, none)` = add the base
    dimension `n` if it is missing (`addMissingDims`) -/
abbrev DimEv := String × Option DimDef

/-- the `dims[n] = v` events of an event list as key/value pairs -/
def setEvs (evs : List DimEv) : List (String × DimDef) := evs.filterMap fun e => e.2.map (e.1, ·)

theorem mem_setEvs {evs : List DimEv} {n : String} {v : DimDef} : (n, v) ∈ setEvs evs ↔ (n, some v) ∈ evs := by
  simp only [setEvs, List.mem_filterMap, Option.map_eq_some_iff, Prod.mk.injEq, Prod.exists]
  exact ⟨fun ⟨_, _, h, _, rfl, rfl, rfl⟩ => h, fun h => ⟨_, _, h, _, rfl, rfl, rfl⟩⟩

/-- one step of `addMissingDims` on the dimension table -/
def weakAdd (t : Dict DimDef) (n : String) : Dict DimDef :=
  if t.contains n then t else t.insert n ⟨n, none⟩

def dimStep (t : Dict DimDef) (e : DimEv) : Dict DimDef :=
  match e.2 with
  | some v => t.insert e.1 v
  | none => weakAdd t e.1

def applyEvs (t : Dict DimDef) (evs : List DimEv) : Dict DimDef := evs.foldl dimStep t

theorem applyEvs_append (t : Dict DimDef) (a b : List DimEv) :
    applyEvs t (a ++ b) = applyEvs (applyEvs t a) b := List.foldl_append

theorem find?_weakAdd (t : Dict DimDef) (m n : String) :
    (weakAdd t m).find? n = (t.find? n).or (if m = n then some ⟨n, none⟩ else none) := by
  unfold weakAdd Dict.contains
  by_cases e : m = n
  · subst e; cases h : t.find? m <;> simp [h, Dict.find?_insert]
  · rw [if_neg e, Option.or_none]
    split
    · rfl
    · rw [Dict.find?_insert, if_neg e]

/-- for a lookup the `dims[n] = v` events act as plain inserts, and an "add if missing" event
    only matters for a name that neither the old table nor such an event defines: it may be moved
    to the end -/
theorem find?_applyEvs (t : Dict DimDef) (evs : List DimEv) (n : String) :
    (applyEvs t evs).find? n =
      ((insertAll t (setEvs evs)).find? n).or (if (n, none) ∈ evs then some ⟨n, none⟩ else none) := by
  induction evs generalizing t with
  | nil => exact Option.or_none.symm
  | cons e r ih =>
    obtain ⟨m, _ | v⟩ := e
    · -- add `m` if missing: `weakAdd` only changes what the old table answers for `m`
      show (applyEvs (weakAdd t m) r).find? n = ((insertAll t (setEvs r)).find? n).or _
      rw [ih, find?_insertAll, find?_insertAll, find?_weakAdd]
      simp only [Option.or_assoc]
      congr 2
      by_cases e : m = n
      · simp [e]
      · simp [e, Ne.symm e]
    · show (applyEvs (t.insert m v) r).find? n = ((insertAll (t.insert m v) (setEvs r)).find? n).or _
      rw [ih]; simp

theorem find_applyEvs_set {evs : List DimEv} (hf : KeyFunctional (setEvs evs)) {n : String} {v : DimDef}
    (hm : (n, some v) ∈ evs) (t : Dict DimDef) : (applyEvs t evs).find? n = some v := by
  rw [find?_applyEvs, find?_insertAll_of_mem hf (mem_setEvs.mpr hm)]; rfl

theorem find_applyEvs_noSet {evs : List DimEv} {n : String} (hs : ∀ v, (n, some v) ∉ evs)
    (t : Dict DimDef) :
    (applyEvs t evs).find? n = (t.find? n).or (if (n, none) ∈ evs then some ⟨n, none⟩ else none) := by
  rw [find?_applyEvs, find?_insertAll_of_not_mem]
  intro hk
  obtain ⟨⟨_, v⟩, hv, rfl⟩ := List.mem_map.mp hk
  exact hs v (mem_setEvs.mp hv)

theorem find_applyEvs_perm {evs evs' : List DimEv} (hf : KeyFunctional (setEvs evs)) (hp : evs.Perm evs')
    (t : Dict DimDef) (n : String) : (applyEvs t evs).find? n = (applyEvs t evs').find? n := by
  have hs : (setEvs evs).Perm (setEvs evs') := hp.filterMap _
  rw [find?_applyEvs, find?_applyEvs, find?_insertAll_perm hf hs]
  simp only [hp.mem_iff]

structure Eff where
  ukvs : List (String × UnitDef) := []
  pkvs : List (String × PrefixDef) := []
  base : List String := []
  devs : List DimEv := []

def Eff.app (a b : Eff) : Eff :=
  ⟨a.ukvs ++ b.ukvs, a.pkvs ++ b.pkvs, a.base ++ b.base, a.devs ++ b.devs⟩

def Eff.join (l : List Eff) : Eff := l.foldr Eff.app {}

theorem Eff.join_map {β : Type} (f : β → Eff) (l : List β) :
    Eff.join (l.map f) = ⟨l.flatMap fun x => (f x).ukvs, l.flatMap fun x => (f x).pkvs,
      l.flatMap fun x => (f x).base, l.flatMap fun x => (f x).devs⟩ := by
  induction l with
  | nil => rfl
  | cons e r ih => rw [List.map_cons, Eff.join, List.foldr_cons, ← Eff.join, ih]; rfl

structure Applies (R R' : Registry) (e : Eff) : Prop where
  units : R'.units = insertAll R.units e.ukvs
  prefixes : R'.prefixes = insertAll R.prefixes e.pkvs
  baseUnits : R'.baseUnits = R.baseUnits ++ e.base
  dims : R'.dims = applyEvs R.dims e.devs

theorem Applies.refl (R : Registry) : Applies R R {} :=
  ⟨rfl, rfl, (List.append_nil _).symm, rfl⟩

theorem Applies.trans {R R' R'' : Registry} {a b : Eff} (h : Applies R R' a) (h' : Applies R' R'' b) :
    Applies R R'' (a.app b) where
  units := by rw [h'.units, h.units]; exact (insertAll_append _ _ _).symm
  prefixes := by rw [h'.prefixes, h.prefixes]; exact (insertAll_append _ _ _).symm
  baseUnits := by rw [h'.baseUnits, h.baseUnits]; exact List.append_assoc _ _ _
  dims := by rw [h'.dims, h.dims]; exact (applyEvs_append _ _ _).symm

theorem applies_foldl {β : Type} (f : Registry → β → Registry) (e : β → Eff)
    (h : ∀ R x, Applies R (f R x) (e x)) (l : List β) (R : Registry) :
    Applies R (l.foldl f R) (Eff.join (l.map e)) := by
  induction l generalizing R with
  | nil => exact Applies.refl R
  | cons x r ih => exact (h R x).trans (ih (f R x))

@[simp] theorem addUnitKey_units (R : Registry) (k : String) (d : UnitDef) :
    (R.addUnitKey k d).units = R.units.insert k d := rfl
@[simp] theorem addUnitKey_prefixes (R : Registry) (k : String) (d : UnitDef) :
    (R.addUnitKey k d).prefixes = R.prefixes := rfl
@[simp] theorem addUnitKey_dims (R : Registry) (k : String) (d : UnitDef) :
    (R.addUnitKey k d).dims = R.dims := rfl
@[simp] theorem addUnitKey_baseUnits (R : Registry) (k : String) (d : UnitDef) :
    (R.addUnitKey k d).baseUnits = R.baseUnits := rfl

theorem applies_addUnitKeys (d : UnitDef) (ks : List String) (R : Registry) :
    Applies R (ks.foldl (fun R k => R.addUnitKey k d) R) { ukvs := ks.map (·, d) } := by
  induction ks generalizing R with
  | nil => exact Applies.refl R
  | cons k t ih =>
    -- `addUnitKey` touches the unit table alone, by the insert with which `insertAll` begins
    have := ih (R.addUnitKey k d)
    exact ⟨this.units, this.prefixes, this.baseUnits, this.dims⟩

theorem applies_addMissingDims (ref : UC) (R : Registry) :
    Applies R (addMissingDims R ref) { devs := ref.map fun p => (p.1, none) } := by
  unfold addMissingDims
  induction ref generalizing R with
  | nil => exact Applies.refl R
  | cons p t ih =>
    have := ih (if R.dims.contains p.1 then R else R.addDim p.1)
    refine ⟨?_, ?_, ?_, ?_⟩
    · rw [List.foldl_cons, this.units]; split <;> rfl
    · rw [List.foldl_cons, this.prefixes]; split <;> rfl
    · rw [List.foldl_cons, this.baseUnits]; split <;> rfl
    · rw [List.foldl_cons, this.dims]
      show applyEvs _ _ = applyEvs (weakAdd R.dims p.1) _
      unfold weakAdd; split <;> rfl

/-- effect of the plain `_add_unit` -/
def plainEff (d : UnitDef) : Eff :=
  { ukvs := (unitKeys d).map (·, d),
    base := if d.isBase then [d.name] else [],
    devs := if d.isBase then d.ref.map (fun p => (p.1, none)) else [] }

theorem plainEff_ukvs (d : UnitDef) : (plainEff d).ukvs = (unitKeys d).map (·, d) := rfl

theorem applies_addUnitPlain (R : Registry) (d : UnitDef) : Applies R (R.addUnitPlain d) (plainEff d) := by
  unfold addUnitPlain plainEff
  cases d.isBase with
  | false => exact applies_addUnitKeys d _ R
  | true =>
    have hb : Applies R { R with baseUnits := R.baseUnits ++ [d.name] } { base := [d.name] } :=
      ⟨rfl, rfl, rfl, rfl⟩
    have := (hb.trans (applies_addMissingDims d.ref _)).trans (applies_addUnitKeys d (unitKeys d) _)
    simpa [Eff.app] using this

/-- the definitions `_add_unit` of the non-multiplicative registry registers: the unit and its
    automatic `delta_` companion -/
def unitParts (u : UnitDef) : List UnitDef := u :: (deltaOf u).toList

def unitEff (u : UnitDef) : Eff := Eff.join ((unitParts u).map plainEff)

theorem applies_addUnit (R : Registry) (u : UnitDef) : Applies R (R.addUnit u) (unitEff u) := by
  have : R.addUnit u = (unitParts u).foldl addUnitPlain R := by
    unfold addUnit unitParts
    cases deltaOf u <;> rfl
  rw [this]
  exact applies_foldl _ _ applies_addUnitPlain _ _

def prefixKVs (p : PrefixDef) : List (String × PrefixDef) := (prefixKeyList p).map (·, p)

theorem applies_addPrefix (R : Registry) (p : PrefixDef) :
    Applies R (R.addPrefix p) { pkvs := prefixKVs p } := by
  refine ⟨rfl, ?_, (List.append_nil _).symm, rfl⟩
  show (prefixKeyList p).foldl (fun ps k => ps.insert k p) R.prefixes = _
  unfold prefixKVs insertAll
  rw [List.foldl_map]

/-- effect of one definition of a definition file (`alias` lines are excluded below: their effect
    depends on the table they are applied to) -/
def defEff : Definition → Eff
  | .pfx p => { pkvs := prefixKVs p }
  | .unit u => unitEff u
  | .dim n => { devs := [(n, some ⟨n, none⟩)] }
  | .ddim n ref => { devs := ref.map (fun p => (p.1, none)) ++ [(n, some ⟨n, some ref⟩)] }
  | .group g => Eff.join (g.units.map unitEff)
  | _ => {}

def NoAlias : Definition → Prop
  | .alias _ _ => False
  | _ => True

theorem applies_addDefinition (R : Registry) (d : Definition) (h : NoAlias d) :
    ∃ R', R.addDefinition d = some R' ∧ Applies R R' (defEff d) := by
  cases d with
  | pfx p => exact ⟨_, rfl, applies_addPrefix R p⟩
  | unit u => exact ⟨_, rfl, applies_addUnit R u⟩
  | dim n => exact ⟨_, rfl, rfl, rfl, (List.append_nil _).symm, rfl⟩
  | ddim n ref =>
    have hs : Applies (addMissingDims R ref) (R.addDerivedDim n ref) { devs := [(n, some ⟨n, some ref⟩)] } :=
      ⟨rfl, rfl, (List.append_nil _).symm, rfl⟩
    exact ⟨_, rfl, by simpa [Eff.app, defEff] using (applies_addMissingDims ref R).trans hs⟩
  | alias n a => exact absurd h id
  | group g => exact ⟨_, rfl, applies_foldl _ _ applies_addUnit _ _⟩
  | _ => exact ⟨_, rfl, Applies.refl R⟩

/-- all (spelling, definition) pairs of the list, in loading order: for every unit its name,
    symbol and aliases, followed by those of its automatic `delta_` companion -/
def allUnitKVs (ds : List Definition) : List (String × UnitDef) := ds.flatMap fun d => (defEff d).ukvs
def allPrefixKVs (ds : List Definition) : List (String × PrefixDef) := ds.flatMap fun d => (defEff d).pkvs
def allBase (ds : List Definition) : List String := ds.flatMap fun d => (defEff d).base
def allDimEvs (ds : List Definition) : List DimEv := ds.flatMap fun d => (defEff d).devs

def listEff (ds : List Definition) : Eff := ⟨allUnitKVs ds, allPrefixKVs ds, allBase ds, allDimEvs ds⟩

theorem join_map_defEff (ds : List Definition) : Eff.join (ds.map defEff) = listEff ds :=
  Eff.join_map _ _

theorem loadInto_applies {ds : List Definition} (h : ∀ d ∈ ds, NoAlias d) (R : Registry) :
    ∃ R', loadInto R ds = some R' ∧ Applies R R' (listEff ds) := by
  rw [← join_map_defEff]
  induction ds generalizing R with
  | nil => exact ⟨R, rfl, Applies.refl R⟩
  | cons d r ih =>
    obtain ⟨R1, e1, a1⟩ := applies_addDefinition R d (h d List.mem_cons_self)
    obtain ⟨R2, e2, a2⟩ := ih (fun x hx => h x (List.mem_cons_of_mem _ hx)) R1
    exact ⟨R2, by simp only [loadInto, e1]; exact e2, a1.trans a2⟩

theorem loadInto_tables {ds : List Definition} (h : ∀ d ∈ ds, NoAlias d) {R R' : Registry}
    (hl : loadInto R ds = some R') : Applies R R' (listEff ds) := by
  obtain ⟨R1, hl1, ha⟩ := loadInto_applies h R
  rw [hl] at hl1; cases hl1; exact ha

theorem NoAlias.perm {ds ds' : List Definition} (h : ∀ d ∈ ds, NoAlias d) (hp : ds.Perm ds') :
    ∀ d ∈ ds', NoAlias d := fun d hd => h d (hp.mem_iff.mpr hd)

/-- what two loads of permuted lists agree on: anything that is the same for any two registries
    carrying the two effects -/
theorem loadInto_map_perm {β : Type} (obs : Registry → β) {ds ds' : List Definition} (hp : ds.Perm ds')
    (h : ∀ d ∈ ds, NoAlias d) (R : Registry)
    (hobs : ∀ R1 R2, Applies R R1 (listEff ds) → Applies R R2 (listEff ds') → obs R1 = obs R2) :
    (loadInto R ds).map obs = (loadInto R ds').map obs := by
  obtain ⟨R1, hl1, a1⟩ := loadInto_applies h R
  obtain ⟨R2, hl2, a2⟩ := loadInto_applies (NoAlias.perm h hp) R
  rw [hl1, hl2]; exact congrArg some (hobs R1 R2 a1 a2)

theorem loadInto_units_perm {ds ds' : List Definition} (hp : ds.Perm ds') (h : ∀ d ∈ ds, NoAlias d)
    (hf : KeyFunctional (allUnitKVs ds)) (R : Registry) (k : String) :
    (loadInto R ds).map (·.units.find? k) = (loadInto R ds').map (·.units.find? k) :=
  loadInto_map_perm _ hp h R fun _ _ a1 a2 => by
    rw [a1.units, a2.units]; exact find?_insertAll_perm hf (hp.flatMap_right _) _ _

theorem loadInto_prefixes_perm {ds ds' : List Definition} (hp : ds.Perm ds') (h : ∀ d ∈ ds, NoAlias d)
    (hf : KeyFunctional (allPrefixKVs ds)) (R : Registry) (k : String) :
    (loadInto R ds).map (·.prefixes.find? k) = (loadInto R ds').map (·.prefixes.find? k) :=
  loadInto_map_perm _ hp h R fun _ _ a1 a2 => by
    rw [a1.prefixes, a2.prefixes]; exact find?_insertAll_perm hf (hp.flatMap_right _) _ _

theorem loadInto_baseUnits_perm {ds ds' : List Definition} (hp : ds.Perm ds') (h : ∀ d ∈ ds, NoAlias d)
    (R : Registry) {R1 R2 : Registry} (h1 : loadInto R ds = some R1) (h2 : loadInto R ds' = some R2) :
    R1.baseUnits.Perm R2.baseUnits := by
  rw [(loadInto_tables h h1).baseUnits, (loadInto_tables (NoAlias.perm h hp) h2).baseUnits]
  exact (hp.flatMap_right _).append_left _

theorem loadInto_dims_find_set {ds : List Definition} (h : ∀ d ∈ ds, NoAlias d)
    (hf : KeyFunctional (setEvs (allDimEvs ds))) {R R' : Registry} (hl : loadInto R ds = some R')
    {n : String} {v : DimDef} (hm : (n, some v) ∈ allDimEvs ds) : R'.dims.find? n = some v := by
  rw [(loadInto_tables h hl).dims]; exact find_applyEvs_set hf hm _

theorem loadInto_dims_find_noSet {ds : List Definition} (h : ∀ d ∈ ds, NoAlias d)
    {R R' : Registry} (hl : loadInto R ds = some R') {n : String}
    (hs : ∀ v, (n, some v) ∉ allDimEvs ds) :
    R'.dims.find? n =
      match R.dims.find? n with
      | some x => some x
      | none => if (n, none) ∈ allDimEvs ds then some ⟨n, none⟩ else none := by
  rw [(loadInto_tables h hl).dims]
  refine (find_applyEvs_noSet hs _).trans ?_
  cases R.dims.find? n <;> rfl

theorem unitEff_ukvs (u : UnitDef) :
    (unitEff u).ukvs = (unitParts u).flatMap fun d => (unitKeys d).map (·, d) := by
  rw [unitEff, Eff.join_map]; rfl

theorem unitEff_pkvs (u : UnitDef) : (unitEff u).pkvs = [] := by
  rw [unitEff, Eff.join_map]; exact List.flatMap_eq_nil_iff.mpr fun _ _ => rfl

theorem unitEff_devs_none {u : UnitDef} {e : DimEv} (he : e ∈ (unitEff u).devs) : e.2 = none := by
  rw [unitEff, Eff.join_map] at he
  obtain ⟨d, _, hed⟩ := List.mem_flatMap.mp he
  unfold plainEff at hed
  split at hed
  · obtain ⟨p, _, rfl⟩ := List.mem_map.mp hed; rfl
  · cases hed

theorem mem_unitParts {u d : UnitDef} : d ∈ unitParts u ↔ d = u ∨ deltaOf u = some d := by
  simp [unitParts]

/-- the spellings under which `_add_unit` registers something for `u` -/
def unitAllKeys (u : UnitDef) : List String :=
  unitKeys u ++ (match deltaOf u with | some dd => unitKeys dd | none => [])

theorem unitAllKeys_eq (u : UnitDef) : unitAllKeys u = (unitParts u).flatMap unitKeys := by
  unfold unitAllKeys unitParts; cases deltaOf u <;> simp

theorem unitEff_ukvs_keys (u : UnitDef) : (unitEff u).ukvs.map (·.1) = unitAllKeys u := by
  rw [unitEff_ukvs, unitAllKeys_eq, List.map_flatMap]; simp [Function.comp_def]

theorem mem_unitEff_ukvs {u v : UnitDef} {k : String} :
    (k, v) ∈ (unitEff u).ukvs ↔
      (k ∈ unitKeys u ∧ v = u) ∨ (∃ dd, deltaOf u = some dd ∧ k ∈ unitKeys dd ∧ v = dd) := by
  grind [unitEff_ukvs, mem_unitParts]

theorem mem_prefixKVs {p v : PrefixDef} {k : String} : (k, v) ∈ prefixKVs p ↔ v = p ∧ k ∈ prefixKeyList p := by
  grind [prefixKVs]

theorem mem_setEvs_allDimEvs {ds : List Definition} {n : String} {v : DimDef}
    (hm : (n, v) ∈ setEvs (allDimEvs ds)) :
    (Definition.dim n ∈ ds ∧ v = ⟨n, none⟩) ∨ (∃ ref, Definition.ddim n ref ∈ ds ∧ v = ⟨n, some ref⟩) := by
  obtain ⟨d, hd, hed⟩ := List.mem_flatMap.mp (mem_setEvs.mp hm)
  cases d with
  | unit u => exact absurd (unitEff_devs_none hed) (by simp)
  | dim n' =>
    obtain ⟨rfl, rfl⟩ : n = n' ∧ v = ⟨n', none⟩ := by simpa [defEff] using hed
    exact Or.inl ⟨hd, rfl⟩
  | ddim n' ref =>
    obtain ⟨rfl, rfl⟩ : n = n' ∧ v = ⟨n', some ref⟩ := by simpa [defEff] using hed
    exact Or.inr ⟨ref, hd, rfl⟩
  | group g =>
    rw [defEff, Eff.join_map] at hed
    obtain ⟨u, _, hu⟩ := List.mem_flatMap.mp hed
    exact absurd (unitEff_devs_none hu) (by simp)
  | _ => cases hed

def UnitOrPfx : Definition → Prop
  | .unit _ => True
  | .pfx _ => True
  | _ => False

theorem UnitOrPfx.noAlias {ds : List Definition} (h : ∀ d ∈ ds, UnitOrPfx d) : ∀ d ∈ ds, NoAlias d := by
  intro d hd; have := h d hd; cases d <;> first | exact this | trivial

/-- all unit spellings of the list, those of the `delta_` companions included -/
def unitKeyList (ds : List Definition) : List String :=
  ds.flatMap fun | .unit u => unitAllKeys u | _ => []

def declaredPrefixes (ds : List Definition) : List PrefixDef :=
  ds.flatMap fun | .pfx p => [p] | _ => []

def prefixKeys (ds : List Definition) : List String :=
  ds.flatMap fun | .pfx p => prefixKeyList p | _ => []

theorem allPrefixKVs_eq (ds : List Definition) : allPrefixKVs ds = (declaredPrefixes ds).flatMap prefixKVs := by
  rw [allPrefixKVs, declaredPrefixes, List.flatMap_assoc]
  congr 1; funext d
  cases d with
  | pfx p => exact (List.flatMap_singleton _ _).symm
  | unit u => exact unitEff_pkvs u
  | group g => rw [defEff, Eff.join_map]; exact List.flatMap_eq_nil_iff.mpr fun u _ => unitEff_pkvs u
  | _ => rfl

theorem prefixKeys_eq (ds : List Definition) : (allPrefixKVs ds).map (·.1) = prefixKeys ds := by
  rw [allPrefixKVs_eq, prefixKeys, declaredPrefixes, List.flatMap_assoc, List.map_flatMap]
  congr 1; funext d
  cases d <;> simp [prefixKVs, Function.comp_def]

theorem mem_declaredPrefixes {ds : List Definition} {p : PrefixDef} :
    p ∈ declaredPrefixes ds ↔ Definition.pfx p ∈ ds := by
  rw [declaredPrefixes, List.mem_flatMap]
  constructor
  · rintro ⟨d, hd, hp⟩
    cases d with
    | pfx p' => rwa [List.mem_singleton.mp hp]
    | _ => cases hp
  · exact fun hd => ⟨_, hd, List.mem_singleton.mpr rfl⟩

theorem mem_allPrefixKVs {ds : List Definition} {k : String} {v : PrefixDef} :
    (k, v) ∈ allPrefixKVs ds ↔ Definition.pfx v ∈ ds ∧ k ∈ prefixKeyList v := by
  rw [allPrefixKVs_eq, List.mem_flatMap, ← mem_declaredPrefixes]
  constructor
  · rintro ⟨p, hp, hm⟩
    obtain ⟨rfl, hk⟩ := mem_prefixKVs.mp hm
    exact ⟨hp, hk⟩
  · exact fun ⟨hp, hk⟩ => ⟨v, hp, mem_prefixKVs.mpr ⟨rfl, hk⟩⟩

variable {ds : List Definition} (hu : ∀ d ∈ ds, UnitOrPfx d)
include hu

theorem unitKeyList_eq : (allUnitKVs ds).map (·.1) = unitKeyList ds := by
  rw [allUnitKVs, List.map_flatMap, unitKeyList, List.flatMap_def, List.flatMap_def]
  refine congrArg _ (List.map_congr_left fun d hd => ?_)
  have := hu d hd
  cases d <;> first | exact absurd this id | exact unitEff_ukvs_keys _ | rfl

theorem mem_allUnitKVs {k : String} {v : UnitDef} :
    (k, v) ∈ allUnitKVs ds ↔ ∃ u, Definition.unit u ∈ ds ∧ ((k ∈ unitKeys u ∧ v = u) ∨
        (∃ dd, deltaOf u = some dd ∧ k ∈ unitKeys dd ∧ v = dd)) := by
  rw [allUnitKVs, List.mem_flatMap]
  constructor
  · rintro ⟨d, hd, hm⟩
    have := hu d hd
    cases d <;> first | exact absurd this id | exact ⟨_, hd, mem_unitEff_ukvs.mp hm⟩ | cases hm
  · rintro ⟨u, hd, hm⟩
    exact ⟨_, hd, mem_unitEff_ukvs.mpr hm⟩

/-- `unit` and `prefix` lines set no dimension: they only add missing base dimensions -/
theorem setEvs_allDimEvs_eq_nil : setEvs (allDimEvs ds) = [] := by
  refine List.eq_nil_iff_forall_not_mem.mpr fun ⟨n, v⟩ hm => ?_
  rcases mem_setEvs_allDimEvs hm with ⟨hd, _⟩ | ⟨_, hd, _⟩ <;> exact hu _ hd

omit hu

/-! Non-vacuity, and counterexamples showing why the hypotheses are there. -/

namespace Examples

def degC : UnitDef := ⟨"degC", some "°C", ["celsius"], .offset 1 273, [("kelvin", 1)], false⟩
def kel : UnitDef := ⟨"kelvin", some "K", [], .scale 1, [("[temperature]", 1)], true⟩
def kilo : PrefixDef := ⟨"kilo", 1000, some "k", []⟩

theorem deltaOf_kel : deltaOf kel = none := rfl

/-- the hypotheses of `loadInto_units_perm` can be met: a list with an offset unit (which brings
    its `delta_` companion), a prefix and a base unit -/
theorem nodup_example : (unitKeyList [.unit degC, .pfx kilo, .unit kel]).Nodup := by
  decide

theorem perm_example :
    List.Perm [Definition.unit degC, .pfx kilo, .unit kel] [Definition.unit kel, .unit degC, .pfx kilo] :=
  List.perm_append_comm (l₁ := [Definition.unit degC, Definition.pfx kilo]) (l₂ := [Definition.unit kel])

example (k : String) :
    (load [.unit degC, .pfx kilo, .unit kel]).map (·.units.find? k) =
    (load [.unit kel, .unit degC, .pfx kilo]).map (·.units.find? k) :=
  loadInto_units_perm perm_example (UnitOrPfx.noAlias (by simp [UnitOrPfx]))
    (keyFunctional_of_nodup (by rw [unitKeyList_eq (by simp [UnitOrPfx])]; exact nodup_example)) _ k

def degC' : UnitDef := ⟨"degC", none, [], .offset 1 273, [("kelvin", 1)], false⟩
def dC : UnitDef := ⟨"delta_degC", none, [], .scale 2, [("kelvin", 1)], false⟩
def meter : UnitDef := ⟨"meter", some "m", [], .scale 1, [("[length]", 1)], true⟩
def mile : UnitDef := ⟨"mile", some "m", [], .scale 1609, [("meter", 1)], false⟩
def second : UnitDef := ⟨"second", some "s", [], .scale 1, [("[time]", 1)], true⟩

/-- a dimension name defined both as base and as derived dimension: the later line wins -/
theorem counterexample_dim_redefined :
    (load [.dim "[a]", .ddim "[a]" [("[b]", 1)]]).map (fun R => (R.dims.find? "[a]").map (·.ref))
      = some (some (some [("[b]", 1)])) ∧
    (load [.ddim "[a]" [("[b]", 1)], .dim "[a]"]).map (fun R => (R.dims.find? "[a]").map (·.ref))
      = some (some none) := by
  decide +kernel

/-- only the lookups are order independent: the tables and the base-unit list keep the order of
    the lines -/
theorem counterexample_table_order :
    (load [.unit meter, .unit second]).map (·.baseUnits) = some ["meter", "second"] ∧
    (load [.unit second, .unit meter]).map (·.baseUnits) = some ["second", "meter"] ∧
    (load [.unit meter, .unit second]).map (·.units.map (·.1)) = some ["meter", "m", "second", "s"] ∧
    (load [.unit second, .unit meter]).map (·.units.map (·.1)) = some ["second", "s", "meter", "m"] := by
  decide +kernel

end Examples

end Pint.LoadLemmas
