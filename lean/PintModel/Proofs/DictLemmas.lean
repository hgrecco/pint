/-
  `Dict.find?` / `Dict.insert` (`Model/Registry.lean`): what a lookup sees, in particular after a loop
  of assignments (`find?_foldl`: the last assignment to a key wins).  The loader's table folds, the keyword
  merge of contexts and the keyword unpacking of `wraps` are such loops.
-/
import PintModel.Model.Registry

namespace Pint.Dict
variable {α : Type}

theorem find?_cons (p : String × α) (t : Dict α) (k : String) :
    Dict.find? (p :: t) k = if p.1 = k then some p.2 else Dict.find? t k := rfl

theorem find?_insert (d : Dict α) (k : String) (v : α) (k' : String) :
    (d.insert k v).find? k' = if k = k' then some v else d.find? k' := by
  fun_induction insert d k v <;> grind [find?]

theorem find?_append (a b : Dict α) (k : String) :
    Dict.find? (a ++ b) k = (Dict.find? a k).or (Dict.find? b k) := by
  fun_induction find? a k <;> grind [find?]

theorem mem_of_find? {d : Dict α} {k : String} {v : α} (h : d.find? k = some v) : (k, v) ∈ d := by
  fun_induction find? d k <;> grind

theorem find?_eq_none_iff {d : Dict α} {k : String} : d.find? k = none ↔ k ∉ d.map (·.1) := by
  fun_induction find? d k <;> grind

/-- the model also spells a lookup `(l.find? (·.1 == k)).map (·.2)` (`Wraps.kwGet`, `Eval.prioOf`; so does `Ctx.getKV` of
    `Proofs/ParamLemmas`, in which the C11 statements read the parameters) -/
theorem map_find?_eq (l : Dict α) (k : String) : (List.find? (·.1 == k) l).map (·.2) = l.find? k := by
  induction l with
  | nil => rfl
  | cons p t ih =>
    rw [List.find?_cons, find?_cons, ← ih]
    by_cases h : p.1 = k
    · rw [if_pos h, beq_iff_eq.mpr h]; rfl
    · rw [if_neg h, beq_false_of_ne h]

theorem any_eq_isSome (l : Dict α) (k : String) : l.any (·.1 == k) = (l.find? k).isSome := by
  induction l with
  | nil => rfl
  | cons p t ih => rw [List.any_cons, find?_cons, ih]; by_cases h : p.1 = k <;> simp [h]

/-- a lookup does not see the entries a filter on the keys drops, unless it drops the key asked for -/
theorem find?_filter {p : String → Bool} {k : String} (hk : p k = true) (d : Dict α) :
    Dict.find? (d.filter fun e => p e.1) k = d.find? k := by
  induction d with
  | nil => rfl
  | cons e t ih =>
    rw [List.filter_cons]
    split
    · simp only [find?, ih]
    · next hp => rw [ih, find?, if_neg fun (h : e.1 = k) => hp (h ▸ hk)]

/-- `d[k] = v` as the keyword loops of the model spell it: overwrite every entry of the key, or append -/
def upsert (acc : Dict α) (p : String × α) : Dict α :=
  if acc.any (·.1 == p.1) then acc.map (fun q => if q.1 == p.1 then p else q) else acc ++ [p]

theorem find?_upsert (acc : Dict α) (p : String × α) (k : String) :
    (upsert acc p).find? k = if p.1 = k then some p.2 else acc.find? k := by
  have hmap : find? (acc.map fun q => if q.1 == p.1 then p else q) k =
      if p.1 = k then (acc.find? k).map fun _ => p.2 else acc.find? k := by
    induction acc with
    | nil => simp [find?]
    | cons q t ih => rw [List.map_cons, find?_cons, find?_cons, ih]; grind
  unfold upsert
  rw [any_eq_isSome]
  split
  · next hs =>
    rw [hmap]
    split
    · next hp => subst hp; obtain ⟨v, hv⟩ := Option.isSome_iff_exists.mp hs; rw [hv]; rfl
    · rfl
  · next hs =>
    rw [find?_append, find?_cons]
    split
    · next hp => subst hp; rw [Option.not_isSome_iff_eq_none.mp hs]; rfl
    · exact Option.or_none

theorem nodup_keys_upsert (acc : Dict α) (p : String × α) (h : (acc.map (·.1)).Nodup) :
    ((upsert acc p).map (·.1)).Nodup := by
  unfold upsert
  split
  · have hk : (acc.map fun q => if q.1 == p.1 then p else q).map (·.1) = acc.map (·.1) := by
      rw [List.map_map]
      refine List.map_congr_left fun q _ => ?_
      simp only [Function.comp]
      split
      · next hq => exact (beq_iff_eq.mp hq).symm
      · rfl
    rwa [hk]
  · next ha =>
    rw [any_eq_isSome, Bool.not_eq_true, Option.isSome_eq_false_iff, Option.isNone_iff_eq_none,
      find?_eq_none_iff] at ha
    simpa [List.nodup_append, h] using fun a x hx (e : a = p.1) => ha (e ▸ List.mem_map_of_mem (f := (·.1)) hx)

/-- any loop whose step reads like an assignment (`find?_insert`, `find?_upsert`): the last assignment to a key wins,
    and a key that is not assigned keeps its old value -/
theorem find?_foldl {upd : Dict α → String × α → Dict α}
    (h : ∀ d p k, (upd d p).find? k = if p.1 = k then some p.2 else d.find? k)
    (l : List (String × α)) (d : Dict α) (k : String) :
    (l.foldl upd d).find? k = (find? l.reverse k).or (d.find? k) := by
  induction l generalizing d with
  | nil => rfl
  | cons p t ih =>
    rw [List.foldl_cons, ih, h, List.reverse_cons, find?_append, Option.or_assoc, find?_cons]
    congr 1; split <;> rfl

end Pint.Dict

/-! Association lists in which equal keys carry equal values.  The notion is named in the loader's namespace
(`Pint.LoadLemmas.KeyFunctional`): the order-independence statements of `Props/C10Load` are written with it. -/
namespace Pint.LoadLemmas
variable {α : Type}

/-- equal keys carry equal values (weaker than `Nodup` of the keys: a unit whose symbol repeats
    its name is allowed) -/
def KeyFunctional (kvs : List (String × α)) : Prop :=
  ∀ k v v', (k, v) ∈ kvs → (k, v') ∈ kvs → v = v'

theorem keyFunctional_of_nodup {kvs : List (String × α)} (hn : (kvs.map (·.1)).Nodup) :
    KeyFunctional kvs := by
  intro k v v' h h'
  induction kvs <;> grind

theorem KeyFunctional.perm {a b : List (String × α)} (h : KeyFunctional a) (hp : a.Perm b) :
    KeyFunctional b :=
  fun k v v' x y => h k v v' (hp.mem_iff.mpr x) (hp.mem_iff.mpr y)

theorem KeyFunctional.find?_eq_some_iff {l : List (String × α)} (h : KeyFunctional l) {k : String} {v : α} :
    Dict.find? l k = some v ↔ (k, v) ∈ l := by
  refine ⟨Dict.mem_of_find?, fun hm => ?_⟩
  cases hf : Dict.find? l k with
  | none => exact absurd (List.mem_map_of_mem (f := (·.1)) hm) (Dict.find?_eq_none_iff.mp hf)
  | some v' => rw [h k v' v (Dict.mem_of_find? hf) hm]

theorem KeyFunctional.find?_perm {l l' : List (String × α)} (h : KeyFunctional l) (hp : l.Perm l')
    (k : String) : Dict.find? l k = Dict.find? l' k :=
  Option.ext fun v => by rw [h.find?_eq_some_iff, (h.perm hp).find?_eq_some_iff, hp.mem_iff]

/-- with equal keys carrying equal values it does not matter which assignment is the last -/
theorem KeyFunctional.find?_foldl {upd : Dict α → String × α → Dict α}
    (h : ∀ d p k, (upd d p).find? k = if p.1 = k then some p.2 else d.find? k)
    {l : List (String × α)} (hf : KeyFunctional l) (d : Dict α) (k : String) :
    (l.foldl upd d).find? k = (Dict.find? l k).or (d.find? k) := by
  rw [Dict.find?_foldl h, ← hf.find?_perm (List.reverse_perm l).symm]

end Pint.LoadLemmas
