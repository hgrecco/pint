/-
  Name parsing in the registry model (`Model/Registry.lean`): which candidate readings
  `_yield_unit_triplets` produces (`mem_yieldTriplets`: one reading per cut of the input into a
  prefix spelling, a stem and a suffix spelling, in both case modes), what `_dedup_candidates` keeps
  of them (`mem_dedupCandidates_iff`), and that `get_name` is the pure reading `resolve` with the
  registration of a prefixed unit added (`resolve_eq_getName`).
-/
import PintModel.Proofs.DictLemmas

namespace Pint.Proofs.ParseName
open Pint Pint.Registry

/-- the middle part that `_yield_unit_triplets` cuts out of the character list `cl` for the
    prefix spelling `p` and the suffix spelling `x` -/
def middle (cl p x : List Char) : List Char :=
  if x.isEmpty then cl.drop p.length
  else (cl.drop p.length).take ((cl.drop p.length).length - x.length)

/-- the test for an empty suffix in `_yield_unit_triplets` changes nothing -/
theorem middle_eq (cl p x : List Char) :
    middle cl p x = (cl.drop p.length).take ((cl.drop p.length).length - x.length) := by
  unfold middle; split
  · next h => rw [List.isEmpty_iff.mp h, List.length_nil, Nat.sub_zero, List.take_length]
  · rfl

theorem middle_append (p m x : List Char) : middle (p ++ m ++ x) p x = m := by
  rw [middle_eq, List.append_assoc, List.drop_left, List.length_append, Nat.add_sub_cancel, List.take_left]

theorem middle_spec {cl p x : List Char} (hp : p <+: cl) (hx : x <:+ cl) :
    cl = p ++ middle cl p x ++ x ∨ (middle cl p x = [] ∧ cl.length < p.length + x.length) := by
  obtain ⟨r, rfl⟩ := hp
  rw [middle_eq, List.drop_left, List.length_append]
  by_cases hle : x.length ≤ r.length
  · left
    obtain ⟨m, rfl⟩ := List.suffix_of_suffix_length_le hx (List.suffix_append p r) hle
    rw [List.length_append, Nat.add_sub_cancel, List.take_left, List.append_assoc]
  · right
    exact ⟨by rw [Nat.sub_eq_zero_of_le (by omega)]; rfl, by omega⟩

/-- the readings `_yield_unit_triplets` yields for one cut: prefix spelling `pk` (with name `p`),
    stem `nm`, suffix value `x` -/
def stemReadings (R : Registry) (cs : Bool) (pk p nm x : String) : List (String × String × String) :=
  if cs then
    if !pk.toList.isEmpty && R.prefixed.contains nm then [] else
    match R.units.find? nm with
    | some d => [(p, d.name, x)]
    | none => []
  else
    let reals := (R.casei.find? (lowerStr R.lower nm)).getD []
    let reals := if reals.contains nm then [nm] else reals.mergeSort (fun a b => decide (a ≤ b))
    reals.filterMap fun real => (R.units.find? real).map fun d => (p, d.name, x)

/-- `s` cut into the prefix spelling `pk` (of the prefix `pd`), the stem `nm` and the suffix
    spelling `sk` (with value `x`), with the tests `_yield_unit_triplets` makes before it looks the
    stem up -/
structure Cut (R : Registry) (s pk : String) (pd : PrefixDef) (nm sk x : String) : Prop where
  pfx : (pk, pd) ∈ R.prefixes
  sfx : (sk, x) ∈ R.suffixes
  isPrefix : pk.toList <+: s.toList
  isSuffix : sk.toList <:+ s.toList
  stem : nm = String.ofList (middle s.toList pk.toList sk.toList)
  guard : sk ≠ "" → nm.length ≠ 1

/-- `_yield_unit_triplets` with the part after the cut named -/
theorem yieldTriplets_eq (R : Registry) (s : String) (cs : Bool) :
    R.yieldTriplets s cs = R.suffixes.flatMap fun sf => R.prefixes.flatMap fun pf =>
      if pf.1.toList.isPrefixOf s.toList && sf.1.toList.isSuffixOf s.toList then
        if !sf.1.toList.isEmpty && (middle s.toList pf.1.toList sf.1.toList).length == 1 then []
        else stemReadings R cs pf.1 pf.2.name (String.ofList (middle s.toList pf.1.toList sf.1.toList)) sf.2
      else [] := rfl

theorem mem_yieldTriplets {R : Registry} {s : String} {cs : Bool} {t : String × String × String} :
    t ∈ R.yieldTriplets s cs ↔
      ∃ pk pd nm sk x, Cut R s pk pd nm sk x ∧ t ∈ stemReadings R cs pk pd.name nm x := by
  rw [yieldTriplets_eq]
  simp only [List.mem_flatMap, Prod.exists, List.mem_ite_nil_right, List.mem_ite_nil_left,
    Bool.and_eq_true, List.isPrefixOf_iff_prefix, List.isSuffixOf_iff_suffix, Bool.not_eq_true',
    List.isEmpty_eq_false_iff, ne_eq, String.toList_eq_nil_iff, beq_iff_eq, not_and]
  constructor
  · rintro ⟨sk, x, hs, pk, pd, hp, ⟨h1, h2⟩, hg, ht⟩
    exact ⟨pk, pd, _, sk, x, ⟨hp, hs, h1, h2, rfl, by rwa [String.length_ofList]⟩, ht⟩
  · rintro ⟨pk, pd, _, sk, x, ⟨hp, hs, h1, h2, rfl, hg⟩, ht⟩
    exact ⟨sk, x, hs, pk, pd, hp, ⟨h1, h2⟩, by rwa [String.length_ofList] at hg, ht⟩

/-- a cut re-spells the input, except in the degenerate case where prefix and suffix spellings
    overlap in the input (then the stem is the empty string) -/
theorem Cut.spec {R : Registry} {s pk nm sk x : String} {pd : PrefixDef} (c : Cut R s pk pd nm sk x) :
    s = pk ++ nm ++ sk ∨ (nm = "" ∧ s.length < pk.length + sk.length) := by
  rcases middle_spec c.isPrefix c.isSuffix with hm | ⟨hm, hl⟩
  · left
    rw [← String.toList_inj, c.stem, String.toList_append, String.toList_append, String.toList_ofList]
    exact hm
  · right
    rw [c.stem, hm]
    exact ⟨rfl, by simpa only [String.length_toList] using hl⟩

theorem Cut.of_append {R : Registry} {pk nm sk x : String} {pd : PrefixDef}
    (hp : (pk, pd) ∈ R.prefixes) (hs : (sk, x) ∈ R.suffixes) (hg : sk ≠ "" → nm.length ≠ 1) :
    Cut R (pk ++ nm ++ sk) pk pd nm sk x where
  pfx := hp
  sfx := hs
  isPrefix := by rw [String.toList_append, String.toList_append, List.append_assoc]; exact List.prefix_append _ _
  isSuffix := by rw [String.toList_append]; exact List.suffix_append _ _
  stem := by rw [String.toList_append, String.toList_append, middle_append, String.ofList_toList]
  guard := hg

theorem mem_stemReadings_true {R : Registry} {pk p nm x : String} {t : String × String × String} :
    t ∈ stemReadings R true pk p nm x ↔
      (pk ≠ "" → R.prefixed.contains nm = false) ∧ ∃ d, R.units.find? nm = some d ∧ t = (p, d.name, x) := by
  simp only [stemReadings, if_true, List.mem_ite_nil_left, Bool.and_eq_true, Bool.not_eq_true',
    List.isEmpty_eq_false_iff, ne_eq, String.toList_eq_nil_iff, not_and, Bool.not_eq_true]
  refine and_congr_right fun _ => ?_
  cases R.units.find? nm <;> simp

/-- case-insensitive mode: a reading comes from a cut of the input whose stem `nm` is looked up in
    the lower-cased table `_units_casei`; the reading's unit is one of the real spellings `real`
    recorded there (the F4 guard is not applied in this mode) -/
theorem yieldTriplets_sound_casei {R : Registry} {s p u x : String}
    (h : (p, u, x) ∈ R.yieldTriplets s false) :
    ∃ (pk : String) (pd : PrefixDef) (nm real : String) (ud : UnitDef) (sk : String),
      (pk, pd) ∈ R.prefixes ∧ pd.name = p ∧
      real ∈ (R.casei.find? (lowerStr R.lower nm)).getD [] ∧
      (nm ∈ (R.casei.find? (lowerStr R.lower nm)).getD [] → real = nm) ∧
      R.units.find? real = some ud ∧ ud.name = u ∧
      (sk, x) ∈ R.suffixes ∧
      pk.toList <+: s.toList ∧ sk.toList <:+ s.toList ∧
      (s = pk ++ nm ++ sk ∨ (nm = "" ∧ s.length < pk.length + sk.length)) ∧
      (sk ≠ "" → nm.length ≠ 1) := by
  obtain ⟨pk, pd, nm, sk, x', c, hr⟩ := mem_yieldTriplets.mp h
  simp only [stemReadings, Bool.false_eq_true, if_false, List.mem_filterMap, Option.map_eq_some_iff,
    Prod.mk.injEq] at hr
  obtain ⟨real, hreal, ud, hd, rfl, rfl, rfl⟩ := hr
  refine ⟨pk, pd, nm, real, ud, sk, c.pfx, rfl, ?_, ?_, hd, rfl, c.sfx, c.isPrefix, c.isSuffix, c.spec, c.guard⟩
  · split at hreal
    · next hc => rw [List.mem_singleton.mp hreal]; exact List.contains_iff_mem.mp hc
    · exact List.mem_mergeSort.mp hreal
  · intro hin
    rw [if_pos (List.contains_iff_mem.mpr hin)] at hreal
    exact List.mem_singleton.mp hreal

/-- the second alternative of `Cut.spec` occurs (so `C08_reading_sound` needs its hypothesis that
    "" is no unit key): with "" a unit key, "ms" a prefix key and "s" a suffix key, the input "ms"
    has the reading `("milli-s", "nothing", "plural")` although "ms" is not "ms" ++ uk ++ "s" for
    any `uk` (Python slices the same way) -/
def overlapRegistry : Registry :=
  { units := [("", ⟨"nothing", none, [], .scale 1, [], false⟩)],
    prefixes := [("", ⟨"", 1, none, []⟩), ("ms", ⟨"milli-s", 1, none, []⟩)],
    suffixes := [("", ""), ("s", "plural")] }

theorem overlap_counterexample :
    overlapRegistry.yieldTriplets "ms" true
      = [("milli-s", "nothing", ""), ("milli-s", "nothing", "plural")] ∧
    ¬ ∃ (pk : String) (pd : PrefixDef) (uk sk : String),
        (pk, pd) ∈ overlapRegistry.prefixes ∧ pd.name = "milli-s" ∧
        (sk, "plural") ∈ overlapRegistry.suffixes ∧ "ms" = pk ++ uk ++ sk := by
  refine ⟨by decide, ?_⟩
  rintro ⟨pk, pd, uk, sk, hp, hn, hs, hcat⟩
  -- the prefix named "milli-s" is spelled "ms" and the suffix with value "plural" is "s": together
  -- they are longer than the input
  obtain rfl : sk = "s" := by simpa [overlapRegistry] using hs
  obtain rfl : pk = "ms" := by
    simp only [overlapRegistry, List.mem_cons, Prod.mk.injEq, List.not_mem_nil, or_false] at hp
    rcases hp with ⟨_, rfl⟩ | ⟨h1, _⟩
    · simp at hn
    · exact h1
  have hlen : "ms".length = "ms".length + uk.length + "s".length := by
    rw [← String.length_append, ← String.length_append, ← hcat]
  have : "ms".length = 2 ∧ "s".length = 1 := by decide
  omega

theorem mem_orderedDedup_iff {α : Type} [BEq α] [LawfulBEq α] {a : α} {l : List α} :
    a ∈ orderedDedup l ↔ a ∈ l := by
  fun_induction orderedDedup l <;> grind

theorem mem_foldl_filter {α β : Type} (c : β → Bool) (p : β → α → Bool) (l : List β) (acc : List α) (a : α) :
    a ∈ l.foldl (fun acc t => if c t then acc.filter (p t) else acc) acc ↔ a ∈ acc ∧ ∀ t ∈ l, c t → p t a := by
  induction l generalizing acc with
  | nil => simp
  | cons t ts ih => rw [List.foldl_cons, ih]; split <;> simp [*, and_assoc]

/-- a reading survives `_dedup_candidates` iff it was there and no prefixed reading spells it as a
    plain unit name -/
theorem mem_dedupCandidates_iff {a : String × String × String} {c : List (String × String × String)} :
    a ∈ dedupCandidates c ↔ a ∈ c ∧ ∀ t ∈ c, t.1 ≠ "" → a ≠ ("", t.1 ++ t.2.1, "") := by
  -- in two steps: `mem_foldl_filter` has to meet the loop's tests as the Booleans they are
  simp only [dedupCandidates, mem_foldl_filter, mem_orderedDedup_iff]
  simp only [bne_iff_ne]

theorem parseUnitName_subset {R : Registry} {s : String} {cs : Option Bool} {t : String × String × String}
    (h : t ∈ R.parseUnitName s cs) : t ∈ R.yieldTriplets s (cs.getD R.caseSensitive) :=
  (mem_dedupCandidates_iff.mp h).1

theorem dedupCandidates_keeps_of_ne {p u x : String} {c : List (String × String × String)}
    (hne : p ≠ "" ∨ x ≠ "") (h : (p, u, x) ∈ c) : (p, u, x) ∈ dedupCandidates c := by
  refine mem_dedupCandidates_iff.mpr ⟨h, fun t _ _ heq => ?_⟩
  cases heq
  simp at hne

theorem dedupCandidates_plain_removed_iff {n : String} {c : List (String × String × String)}
    (h : ("", n, "") ∈ c) :
    ("", n, "") ∉ dedupCandidates c ↔ ∃ p u x, (p, u, x) ∈ c ∧ p ≠ "" ∧ p ++ u = n := by
  grind [mem_dedupCandidates_iff]

/-- `_dedup_candidates` drops a plain reading only in favour of a prefixed reading with the same
    spelling, which it keeps -/
theorem dedupCandidates_plain_removed {n : String} {c : List (String × String × String)}
    (h : ("", n, "") ∈ c) (hrem : ("", n, "") ∉ dedupCandidates c) :
    ∃ p u x, p ≠ "" ∧ p ++ u = n ∧ (p, u, x) ∈ c ∧ (p, u, x) ∈ dedupCandidates c := by
  obtain ⟨p, u, x, ht, hp, heq⟩ := (dedupCandidates_plain_removed_iff h).mp hrem
  exact ⟨p, u, x, hp, heq, ht, dedupCandidates_keeps_of_ne (Or.inl hp) ht⟩

theorem resolve_eq_getName (R : Registry) (s : String) (cs : Option Bool) :
    R.resolve s cs = (R.getName s cs).map fun r =>
      (r.1, if s = "dimensionless" then none else r.2.units.find? r.1) := by
  -- both make the same case distinction; where `get_name` registers `d` under `p ++ u`, the lookup
  -- in the table it returns finds `d`
  grind [getName, resolve, Except.map, Dict.find?_insert]

/-- in case-sensitive mode the reading `get_name` uses is one of the candidate readings (and so, by
    `mem_yieldTriplets`, a decomposition of the input into registry keys) -/
theorem getName_reading_sound {R : Registry} {s p u x : String} {cs : Option Bool}
    {rest : List (String × String × String)}
    (hcs : cs.getD R.caseSensitive = true)
    (hp : R.parseUnitName s cs = (p, u, x) :: rest) :
    (p, u, x) ∈ R.yieldTriplets s true :=
  hcs ▸ parseUnitName_subset (hp ▸ List.mem_cons_self)

end Pint.Proofs.ParseName
