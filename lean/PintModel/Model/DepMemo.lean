/-
  Dependency-directed invalidation of per-node memos (C14: `Group.members`).

  Every node (a group) has a memo of an answer that depends on the node's own content and on the content of the nodes below
  it (`dep t c`: the answer of `t` depends on the content of `c`).  Editing the content of `c` empties the memos the policy
  says (`clearedBy c t`: pint's `invalidate_members` empties the node's own memo and walks `_used_by` upwards).  `run`
  answers a history of reads and edits through the memos; `runSpec` recomputes every answer.
-/
namespace Pint.DepMemo

variable {N κ ν : Type} [DecidableEq N]

/-- the content version of every node -/
abbrev St (N : Type) := N → Nat

def St.set (s : St N) (c : N) (v : Nat) : St N := fun c' => if c' = c then v else s c'

inductive Op (N : Type)
  | read (t : N)
  | edit (c : N) (v : Nat)

abbrev Memos (N ν : Type) := N → Option ν

/-- a history answered through the memos: a read stores its answer, an edit of `c` empties the memos `clearedBy c` names -/
def run (clearedBy : N → N → Bool) (spec : N → St N → ν) : St N → Memos N ν → List (Op N) → List ν
  | _, _, [] => []
  | s, m, .read t :: ops =>
    match m t with
    | some v => v :: run clearedBy spec s m ops
    | none => spec t s :: run clearedBy spec s (fun t' => if t' = t then some (spec t s) else m t') ops
  | s, m, .edit c v :: ops => run clearedBy spec (s.set c v) (fun t => if clearedBy c t then none else m t) ops

def runSpec (spec : N → St N → ν) : St N → List (Op N) → List ν
  | _, [] => []
  | s, .read t :: ops => spec t s :: runSpec spec s ops
  | s, .edit c v :: ops => runSpec spec (s.set c v) ops

/-- every memo whose answer depends on `c` is emptied by an edit of `c` -/
def Covers (clearedBy dep : N → N → Bool) : Prop := ∀ c t, dep t c = true → clearedBy c t = true

/-- the answer of `t` depends on the content of the nodes `dep t ·` only -/
def Local (spec : N → St N → ν) (dep : N → N → Bool) : Prop :=
  ∀ t s s', (∀ c, dep t c = true → s c = s' c) → spec t s = spec t s'

def Inv (spec : N → St N → ν) (s : St N) (m : Memos N ν) : Prop := ∀ t v, m t = some v → v = spec t s

omit [DecidableEq N] in
theorem inv_empty (spec : N → St N → ν) (s : St N) : Inv spec s (fun _ => none) := by
  intro t v h; cases h

theorem inv_store {spec : N → St N → ν} {s : St N} {m : Memos N ν} (hi : Inv spec s m) (t : N) :
    Inv spec s (fun t' => if t' = t then some (spec t s) else m t') := by
  intro t' v h
  dsimp only at h
  split at h
  · next e => cases h; rw [e]
  · exact hi t' v h

theorem inv_edit {clearedBy dep : N → N → Bool} {spec : N → St N → ν} (hc : Covers clearedBy dep)
    (hl : Local spec dep) {s : St N} {m : Memos N ν} (hi : Inv spec s m) (c : N) (v : Nat) :
    Inv spec (s.set c v) (fun t => if clearedBy c t then none else m t) := by
  intro t w h
  dsimp only at h
  split at h
  · cases h
  · next hcl =>
    -- the memo of `t` survives the edit, so `t` does not depend on `c` and sees the same contents as before
    rw [hi t w h]
    refine hl t s (s.set c v) fun c' hd => ?_
    have hne : c' ≠ c := fun e => hcl (e ▸ hc c' t hd)
    simp [St.set, hne]

/-- **any history of reads and edits**: every answer is the one the current contents imply -/
theorem run_transparent {clearedBy dep : N → N → Bool} {spec : N → St N → ν} (hc : Covers clearedBy dep)
    (hl : Local spec dep) (s : St N) (m : Memos N ν) (hi : Inv spec s m) (ops : List (Op N)) :
    run clearedBy spec s m ops = runSpec spec s ops := by
  induction ops generalizing s m with
  | nil => rfl
  | cons o ops ih =>
    cases o with
    | read t =>
      simp only [run, runSpec]
      cases hm : m t with
      | some v =>
        simp only
        rw [hi t v hm, ih s m hi]
      | none =>
        simp only
        rw [ih s _ (inv_store hi t)]
    | edit c v =>
      simp only [run, runSpec]
      exact ih _ _ (inv_edit hc hl hi c v)

end Pint.DepMemo
