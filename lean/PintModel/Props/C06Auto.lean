/-
  C06 — "products ... are only allowed in autoconvert mode and then go through base units": a compound unit that
  holds one offset unit converts, in autoconvert mode, as the reference value of the offset part times the
  REMAINING factors (the F66 repair: the remaining factors used to be dropped).
-/
import PintModel.Model.Registry
import PintModel.Props.C06Conv  -- see the note at its import of `Props.C06`

namespace Pint.Props.C06Auto
open Pint Pint.Registry

/-- source side: `x` in `k * rest` (k an offset unit to the first power) converts to a multiplicative destination as
    `to_reference(x)` in `rest * reference(k)` -/
theorem C06_autoconvert_compound (R : Registry) (x v : Rat) (src dst sd dd : UC) (k : String) (d : UnitDef)
    (hs : R.validateAndExtract true src = .ok (some k)) (hd : R.validateAndExtract true dst = .ok none)
    (hsd : R.getDimensionality src = .ok sd) (hdd : R.getDimensionality dst = .ok dd) (heq : sd.beq dd = true)
    (hnd : dst.any (fun p => "delta_".toList.isPrefixOf p.1.toList) = false)
    (hk : R.units.find? k = some d) (hoff : d.isMult = false) (hlog : d.conv.isLogarithmic = false)
    (hv : toReference d.conv x = .ok v) :
    R.convertNM true x src dst = R.convertPlain v ((src.del k).mul d.ref) dst := by
  unfold convertNM
  simp only [hs, hd, hsd, hdd, heq, hnd, hk, hv, refOfOffset, hoff, hlog]
  simp
  cases R.convertPlain v ((src.del k).mul d.ref) dst <;> rfl

/-- without autoconvert the same source is refused (DimensionalityError), whatever the destination -/
theorem C06_compound_refused (R : Registry) (x : Rat) (src dst : UC)
    (hs : R.validateAndExtract false src = .error .value) :
    R.convertNM false x src dst = .error .dimensionality :=
  C06.C06_convert_refuses R false x src dst (.inl hs)

end Pint.Props.C06Auto
