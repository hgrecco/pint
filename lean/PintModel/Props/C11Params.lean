/-
  C11 — parameters of a context: "taken from the call's keyword arguments, else from the enclosing active
  context, else from the context's declared defaults" — for every state, every list of names and every
  keyword list, at the level of `enable` (`enable_contexts`), after the F64 repair (`chainDefaults` = the
  parameters of the most recently enabled context).
-/
import PintModel.Model.Context
import PintModel.Props.C11
import PintModel.Proofs.ParamLemmas

namespace Pint.Props.C11Params
open Pint Pint.Ctx

/-- `d.get(k)` on an association list with unique keys -/
def lookupP (l : List (String × Rat)) (k : String) : Option Rat := (l.find? (·.1 == k)).map (·.2)

/-- `dict(base, **kw)` : a key of `kw` wins, every other key keeps the value of `base` -/
theorem C11_mergeKw_lookup (base kw : List (String × Rat)) (hkw : (kw.map (·.1)).Nodup) (k : String) :
    lookupP (mergeKw base kw) k = (lookupP kw k).orElse (fun _ => lookupP base k) :=
  getKV_mergeKw base kw hkw k

/-- the parameters in force for a context `c` enabled with keywords `kw` while `st` is the state:
    keyword arguments, else the innermost active context's parameters, else its own declared defaults -/
def inForce (st : State) (c : Context) (kw : List (String × Rat)) (k : String) : Option Rat :=
  (lookupP kw k).orElse fun _ => (lookupP (chainDefaults st) k).orElse fun _ => lookupP c.defaults k

/-- FULL STATEMENT: a successful `enable st names kw` pushes, for the registered contexts `cs` the names
    resolve to (in order), instances whose parameters are exactly `inForce`; everything below is untouched.
    `hd`: the parameters of the innermost active context have unique keys (a Python dict; it holds in every
    reachable state, see `C11_defaults_nodup_inv` and `C11_chainDefaults_nodup`) -/
theorem C11_param_inheritance (st st' : State) (names : List String) (kw : List (String × Rat))
    (hkw : (kw.map (·.1)).Nodup) (hd : ((chainDefaults st).map (·.1)).Nodup)
    (h : enable st names kw = .ok st') :
    ∃ cs insts : List Context,
      cs.length = names.length ∧ insts.length = cs.length ∧
      (∀ i (hi : i < names.length) (hc : i < cs.length), ∃ key, st.contexts.find? (·.1 == names[i]) = some (key, cs[i])) ∧
      st'.active = insts.reverse ++ st.active ∧ st'.contexts = st.contexts ∧
      (∀ i (hc : i < cs.length) (hi : i < insts.length),
        insts[i].name = cs[i].name ∧ insts[i].rules = cs[i].rules ∧
        ∀ k, lookupP insts[i].defaults k = inForce st cs[i] kw k) := by
  obtain ⟨cs, hres, rfl⟩ := enable_ok h
  obtain ⟨hlen, hfind⟩ := resolve_ok hres
  refine ⟨cs, cs.map (fun c => fromContext c (enableKw st kw)), hlen, List.length_map _, hfind, rfl, rfl, ?_⟩
  intro i hc hi
  rw [List.getElem_map]
  exact ⟨fromContext_name _ _, fromContext_rules _ _, fun k => getKV_instance st cs[i] kw hkw hd k⟩

/-- unique keys are an invariant of `enable`: if the declared defaults of every registered context and the
    parameters of every active context have unique keys, the same holds after a successful `enable`
    (whatever the keyword list), so the hypothesis `hd` of `C11_param_inheritance` is met by every state
    reached from a registry whose contexts declare each default once -/
theorem C11_defaults_nodup_inv (st st' : State) (names : List String) (kw : List (String × Rat))
    (hreg : ∀ p ∈ st.contexts, (p.2.defaults.map (·.1)).Nodup)
    (hact : ∀ c ∈ st.active, (c.defaults.map (·.1)).Nodup)
    (h : enable st names kw = .ok st') :
    (∀ p ∈ st'.contexts, (p.2.defaults.map (·.1)).Nodup) ∧
    (∀ c ∈ st'.active, (c.defaults.map (·.1)).Nodup) := by
  obtain ⟨cs, hres, rfl⟩ := enable_ok h
  refine ⟨hreg, ?_⟩
  intro c hc
  rcases List.mem_append.mp hc with hc | hc
  · obtain ⟨c0, hc0, rfl⟩ := List.mem_map.mp (List.mem_reverse.mp hc)
    obtain ⟨p, hp, rfl⟩ := resolve_mem hres c0 hc0
    exact keysOf_fromContext_nodup _ _ (hreg p hp)
  · exact hact c hc

/-- `disable` keeps the invariant -/
theorem C11_defaults_nodup_disable (st : State) (n : Option Nat)
    (hact : ∀ c ∈ st.active, (c.defaults.map (·.1)).Nodup) :
    ∀ c ∈ (disable st n).active, (c.defaults.map (·.1)).Nodup := by
  intro c hc
  cases n with
  | none => cases hc
  | some k => exact hact c (List.mem_of_mem_drop hc)

/-- under the invariant the parameters handed on by the chain have unique keys -/
theorem C11_chainDefaults_nodup (st : State) (hact : ∀ c ∈ st.active, (c.defaults.map (·.1)).Nodup) :
    ((chainDefaults st).map (·.1)).Nodup := by
  unfold chainDefaults
  cases ha : st.active with
  | nil => exact List.nodup_nil
  | cons c t => exact hact c (by rw [ha]; exact List.mem_cons_self)

/-- an unknown name fails and (being a pure function) changes nothing -/
theorem C11_enable_unknown (st : State) (names : List String) (kw : List (String × Rat)) (n : String)
    (hn : n ∈ names) (hu : st.contexts.find? (·.1 == n) = none) :
    ∃ m, enable st names kw = .error (.unknown m) := by
  obtain ⟨m, hm⟩ := resolve_unknown st names n hn hu
  exact ⟨m, by rw [enable_eq, hm]⟩

def cx (name : String) (n : Rat) : Context := { name := name, defaults := [("n", n)] }
def st0 : State := { contexts := [("x", cx "x" 1), ("y", cx "y" 1), ("z", cx "z" 1)] }

/- the scenario of F64: enable x with n = 2, then y with n = 4, then z without keywords: z runs with n = 4
   (and y with 4, x with 2) -/
example : (do
    let s1 ← enable st0 ["x"] [("n", 2)]
    let s2 ← enable s1 ["y"] [("n", 4)]
    let s3 ← enable s2 ["z"] []
    pure (s3.active.map fun c => (c.name, lookupP c.defaults "n")) : Except EnableErr _).toOption
    = some [("z", some 4), ("y", some 4), ("x", some 2)] := by
  decide +kernel

end Pint.Props.C11Params
