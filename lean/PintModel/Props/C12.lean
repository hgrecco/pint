/-
  C12 — context activation is scoped, stack-like, atomic and leaves no residue.

  Model: the active contexts are a list (most recent first); `Ctx.enable` pushes the
  instantiated contexts of one call, `Ctx.disable n` pops `n`, the registry seen while a stack
  is active is the *function* `Ctx.effective base stack` (redefinitions of the oldest first).
  Observations are functions of (base registry, stack) only, so restoring the stack restores
  every answer; the implementation's overlay caches are compared against this on every probe.
-/
import PintModel.Model.Context
import PintModel.Props.C11
import PintModel.Proofs.ParamLemmas

namespace Pint.Props.C12
open Pint Pint.Ctx

/-- one call of `enable_contexts` / `disable_contexts` -/
inductive Op
  | enable (names : List String) (kw : List (String × Rat))
  | disable (n : Option Nat)
  deriving Repr

/-- one operation; a failing activation changes nothing (atomic) -/
def step (st : State) : Op → State
  | .enable names kw => match enable st names kw with
    | .ok st' => st'
    | .error _ => st
  | .disable n => disable st n

def run (st : State) (ops : List Op) : State := ops.foldl step st

/-- **atomic**: a failed activation leaves the whole state unchanged -/
theorem C12_atomic (st : State) (names : List String) (kw : List (String × Rat)) (e : EnableErr)
    (h : enable st names kw = .error e) : step st (.enable names kw) = st := by
  simp [step, h]

/-- a successful activation pushes exactly one instance per name and touches nothing else -/
theorem C12_push (st st' : State) (names : List String) (kw : List (String × Rat))
    (h : enable st names kw = .ok st') :
    ∃ inst : List Context, inst.length = names.length ∧ st'.active = inst.reverse ++ st.active ∧
      st'.contexts = st.contexts :=
  C11.C11_enable_order st st' names kw h

/-- **scoped / stack-like**: leaving a `with` block (normally or through an exception: the
    `finally` branch is the same `disable_contexts(len(names))`) restores the state exactly -/
theorem C12_with_restores (st st' : State) (names : List String) (kw : List (String × Rat))
    (h : enable st names kw = .ok st') :
    disable st' (some names.length) = st := by
  obtain ⟨cs, hres, rfl⟩ := enable_ok h
  have hl : ((cs.map fun c => fromContext c (enableKw st kw)).reverse).length = names.length := by
    rw [List.length_reverse, List.length_map, (resolve_ok hres).1]
  simp only [disable, ← hl, List.drop_left]

/-- nested blocks: whatever balanced sequence runs inside, the outer state comes back -/
theorem C12_nested (st s1 s2 : State) (n1 n2 : List String) (k1 k2 : List (String × Rat))
    (h1 : enable st n1 k1 = .ok s1) (h2 : enable s1 n2 k2 = .ok s2) :
    disable (disable s2 (some n2.length)) (some n1.length) = st := by
  rw [C12_with_restores s1 s2 n2 k2 h2, C12_with_restores st s1 n1 k1 h1]

/-- `disable_contexts()` without argument empties the stack -/
theorem C12_disable_all (st : State) : (disable st none).active = [] ∧ (disable st none).contexts = st.contexts :=
  ⟨rfl, rfl⟩

/-- **no residue**: the registry seen by queries depends only on the base registry and the
    current stack — equal stacks give equal answers, whatever happened in between -/
theorem C12_no_residue (base : Registry) (s1 s2 : State) (h : s1.active = s2.active) :
    effective base s1.active = effective base s2.active := by rw [h]

/-- re-entering with other parameters builds a new instance; the registered context is not modified -/
theorem C12_registered_untouched (st st' : State) (names : List String) (kw : List (String × Rat))
    (h : enable st names kw = .ok st') : st'.contexts = st.contexts :=
  let ⟨_, _, _, hc⟩ := C12_push st st' names kw h; hc

/-- a failing activation inside a run is skipped: the run continues from the unchanged state -/
theorem C12_run_skips_failure (st : State) (names : List String) (kw : List (String × Rat)) (e : EnableErr)
    (rest : List Op) (h : enable st names kw = .error e) :
    run st (.enable names kw :: rest) = run st rest := by
  simp [run, List.foldl_cons, step, h]

end Pint.Props.C12
