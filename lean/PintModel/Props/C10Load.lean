/-
  C10 — order independence for the model's real loader (`Registry.loadInto`, `Registry.load`), not
  only for the abstraction "fold of `Dict.insert`" of `Props/C10.lean`.

  The statements: for a list of `unit` and `prefix` lines whose spellings (names, symbols, aliases and
  the spellings of the automatic `delta_` companions of offset units) are pairwise distinct, every
  lookup in the unit table, the prefix table and the dimension table is the same for every permutation
  of the lines, the base-unit lists are permutations of each other, and the tables contain exactly what
  the lines declare.  The hypotheses are needed: see the counterexamples at the end (all decided by
  evaluation of the model, and reproduced on pint by the correspondence check's permuted variants).

  Proofs: `Proofs/LoadLemmas.lean`, where the same is shown for every list without `alias` lines
  whose equal spellings carry equal definitions.
-/
import PintModel.Proofs.LoadLemmas
import PintModel.Props.C10

namespace Pint.Props.C10Load
open Pint Pint.Registry Pint.LoadLemmas

/-- loading never fails on lists of `unit` / `prefix` lines -/
theorem C10_load_succeeds {ds : List Definition} (hu : ∀ d ∈ ds, UnitOrPfx d) (R : Registry) :
    ∃ R', loadInto R ds = some R' := (loadInto_applies (UnitOrPfx.noAlias hu) R).imp fun _ h => h.1

/-- unit-table lookups do not depend on the order of the lines, whatever registry the lines are
    loaded into (loading a second file, `define` after `load`) -/
theorem C10_units_order_independent_into {ds ds' : List Definition} (hp : ds.Perm ds')
    (hu : ∀ d ∈ ds, UnitOrPfx d) (hn : (unitKeyList ds).Nodup) (R : Registry) (k : String) :
    (loadInto R ds).map (·.units.find? k) = (loadInto R ds').map (·.units.find? k) :=
  loadInto_units_perm hp (UnitOrPfx.noAlias hu) (keyFunctional_of_nodup (unitKeyList_eq hu ▸ hn)) R k

/-- the same for `load`, which starts from a fresh registry -/
theorem C10_units_order_independent {ds ds' : List Definition} (hp : ds.Perm ds')
    (hu : ∀ d ∈ ds, UnitOrPfx d) (hn : (unitKeyList ds).Nodup) (lower : List (Char × Char)) (k : String) :
    (load ds lower).map (·.units.find? k) = (load ds' lower).map (·.units.find? k) :=
  C10_units_order_independent_into hp hu hn _ k

/-- prefix-table lookups do not depend on the order of the lines -/
theorem C10_prefixes_order_independent {ds ds' : List Definition} (hp : ds.Perm ds')
    (hu : ∀ d ∈ ds, UnitOrPfx d) (hn : (prefixKeys ds).Nodup) (R : Registry) (k : String) :
    (loadInto R ds).map (·.prefixes.find? k) = (loadInto R ds').map (·.prefixes.find? k) :=
  loadInto_prefixes_perm hp (UnitOrPfx.noAlias hu) (keyFunctional_of_nodup (prefixKeys_eq ds ▸ hn)) R k

/-- the unit table says exactly what the lines declare: a spelling answers with the unit line that
    lists it (or with that line's `delta_` companion), and with nothing else -/
theorem C10_units_exactly_declared {ds : List Definition} (hu : ∀ d ∈ ds, UnitOrPfx d)
    (hn : (unitKeyList ds).Nodup) {lower : List (Char × Char)} {R' : Registry}
    (hl : load ds lower = some R') (k : String) (v : UnitDef) :
    R'.units.find? k = some v ↔
      ∃ u, Definition.unit u ∈ ds ∧ ((k ∈ unitKeys u ∧ v = u) ∨
        (∃ dd, deltaOf u = some dd ∧ k ∈ unitKeys dd ∧ v = dd)) := by
  rw [(loadInto_tables (UnitOrPfx.noAlias hu) hl).units, ← mem_allUnitKVs hu]
  exact find?_insertAll_iff (keyFunctional_of_nodup (unitKeyList_eq hu ▸ hn)) rfl v

/-- spellings no line mentions are left as they were -/
theorem C10_units_untouched {ds : List Definition} (hu : ∀ d ∈ ds, UnitOrPfx d)
    {R R' : Registry} (hl : loadInto R ds = some R') {k : String} (hk : k ∉ unitKeyList ds) :
    R'.units.find? k = R.units.find? k := by
  rw [(loadInto_tables (UnitOrPfx.noAlias hu) hl).units]
  exact find?_insertAll_of_not_mem (unitKeyList_eq hu ▸ hk) _

/-- the prefix table says exactly what the lines declare -/
theorem C10_prefixes_exactly_declared {ds : List Definition} (hu : ∀ d ∈ ds, UnitOrPfx d)
    (hn : (prefixKeys ds).Nodup) {R R' : Registry} (hl : loadInto R ds = some R')
    {k : String} (hR : R.prefixes.find? k = none) (v : PrefixDef) :
    R'.prefixes.find? k = some v ↔ Definition.pfx v ∈ ds ∧ k ∈ prefixKeyList v := by
  rw [(loadInto_tables (UnitOrPfx.noAlias hu) hl).prefixes, ← mem_allPrefixKVs]
  exact find?_insertAll_iff (keyFunctional_of_nodup (prefixKeys_eq ds ▸ hn)) hR v

theorem C10_prefixes_untouched {ds : List Definition} (hu : ∀ d ∈ ds, UnitOrPfx d)
    {R R' : Registry} (hl : loadInto R ds = some R') {k : String} (hk : k ∉ prefixKeys ds) :
    R'.prefixes.find? k = R.prefixes.find? k := by
  rw [(loadInto_tables (UnitOrPfx.noAlias hu) hl).prefixes]
  exact find?_insertAll_of_not_mem (prefixKeys_eq ds ▸ hk) _

/-- the base units are the same set in every order -/
theorem C10_base_units_order_independent {ds ds' : List Definition} (hp : ds.Perm ds')
    (hu : ∀ d ∈ ds, UnitOrPfx d) (R : Registry) {R1 R2 : Registry}
    (h1 : loadInto R ds = some R1) (h2 : loadInto R ds' = some R2) :
    R1.baseUnits.Perm R2.baseUnits := loadInto_baseUnits_perm hp (UnitOrPfx.noAlias hu) R h1 h2

/-- with derived-dimension and base-dimension lines too, as long as no dimension name is given two
    different definitions and no `alias` line occurs -/
theorem C10_dims_order_independent_general {ds ds' : List Definition} (hp : ds.Perm ds')
    (h : ∀ d ∈ ds, NoAlias d) (hf : KeyFunctional (setEvs (allDimEvs ds))) (R : Registry) (n : String) :
    (loadInto R ds).map (·.dims.find? n) = (loadInto R ds').map (·.dims.find? n) :=
  loadInto_map_perm _ hp h R fun _ _ a1 a2 => by
    rw [a1.dims, a2.dims]; exact find_applyEvs_perm hf (hp.flatMap_right _) _ _

/-- the dimension table (base dimensions created on the fly by base units) in every order -/
theorem C10_dims_order_independent {ds ds' : List Definition} (hp : ds.Perm ds')
    (hu : ∀ d ∈ ds, UnitOrPfx d) (R : Registry) (n : String) :
    (loadInto R ds).map (·.dims.find? n) = (loadInto R ds').map (·.dims.find? n) :=
  C10_dims_order_independent_general hp (UnitOrPfx.noAlias hu)
    (setEvs_allDimEvs_eq_nil hu ▸ fun _ _ _ h => nomatch h) R n

/-! non-vacuity: an offset unit with its companion, a prefix, a base unit -/
example (k : String) :
    (load [.unit Examples.degC, .pfx Examples.kilo, .unit Examples.kel]).map (·.units.find? k) =
    (load [.unit Examples.kel, .unit Examples.degC, .pfx Examples.kilo]).map (·.units.find? k) :=
  C10_units_order_independent Examples.perm_example (by simp [UnitOrPfx]) Examples.nodup_example [] k

/-! why the hypotheses are there (decided by evaluating the model) -/

/-- a written `delta_degC` and the automatic companion of `degC` overwrite each other -/
theorem C10_needs_distinct_companions :
    (load [.unit Examples.degC', .unit Examples.dC]).map (fun R => (R.units.find? "delta_degC").map (·.conv)) = some (some (.scale 2)) ∧
    (load [.unit Examples.dC, .unit Examples.degC']).map (fun R => (R.units.find? "delta_degC").map (·.conv)) = some (some (.scale 1)) := by
  decide +kernel

/-- two units sharing a spelling: the later line wins -/
theorem C10_needs_distinct_spellings :
    (load [.unit Examples.meter, .unit Examples.mile]).map (fun R => (R.units.find? "m").map (·.name)) = some (some "mile") ∧
    (load [.unit Examples.mile, .unit Examples.meter]).map (fun R => (R.units.find? "m").map (·.name)) = some (some "meter") := by
  decide +kernel

/-- `alias` lines must follow the unit they extend -/
theorem C10_alias_needs_order :
    (load [.unit Examples.meter, .alias "meter" ["metre"]]).isSome = true ∧
    (load [.alias "meter" ["metre"], .unit Examples.meter]).isSome = false := by
  decide +kernel

end Pint.Props.C10Load
