/-
  C14 — the `members` memo of the groups, as the source implements it, is transparent.

  `Gen/GroupPolicy.lean` (regenerated from `pint/facets/group/objects.py` / `pint/facets/system/objects.py` on every run) says
  what `invalidate_members` empties and which mutators call it.  The members of a group depend on its own content and on the
  content of every group below it; the theorems: the source's invalidation covers those dependencies, hence every
  history of `members` reads interleaved with edits is answered as if nothing were memoised.
-/
import PintModel.Props.C14
import PintModel.Model.DepMemo
import PintModel.Gen.GroupPolicy

namespace Pint.Props.C14Memo
open Pint.DepMemo

variable {N ν : Type} [DecidableEq N]

/-- specification: the members of `t` depend on the content of `t` and of every group `t` uses, directly or through others -/
def dependsOn (below : N → N → Bool) (t c : N) : Bool := decide (t = c) || below t c

theorem C14_group_policy_recognised : Pint.Gen.GroupPolicy.problems = [] := by decide

/-- **the invalidation written in the source covers every dependency**, for every "uses" relation -/
theorem C14_group_policy_covers (below : N → N → Bool) :
    Covers (Pint.Gen.GroupPolicy.clearedBy below) (dependsOn below) := by
  intro c t hd
  -- every flag read from the source is `true`, which leaves `c = t || below t c`
  show (decide (c = t) || below t c) = true
  simp only [dependsOn, Bool.or_eq_true, decide_eq_true_eq] at hd ⊢
  exact hd.imp_left Eq.symm

/-- **any history of `members` reads and content edits on a group graph** is answered like the memo-free closure.
    `_partial`: the "uses" relation is fixed over the history, i.e. the edits are `add_units` / `remove_units` (and any edit
    that leaves the graph as it is); `add_groups` / `remove_groups` change the relation itself and are compared with the
    closure over the raw fields by the harness (edit sequences), not covered by this theorem. -/
theorem C14_members_memo_transparent_partial (below : N → N → Bool) (spec : N → St N → ν)
    (hl : Local spec (dependsOn below)) (s : St N) (ops : List (Op N)) :
    run (Pint.Gen.GroupPolicy.clearedBy below) spec s (fun _ => none) ops = runSpec spec s ops :=
  run_transparent (C14_group_policy_covers below) hl s _ (inv_empty spec s) ops

/-- `System.members` keeps no memo: nothing to invalidate there (read from the source) -/
theorem C14_system_members_not_memoised : Pint.Gen.GroupPolicy.systemHasNoMemo = true := by decide

/-- a chain of groups, `t` using every `c < t`: the hypotheses are satisfiable and the machine runs (a test, not a property) -/
def demoBelow (t c : Nat) : Bool := decide (c < t)
def demoSpec (t : Nat) (s : St Nat) : List Nat := (List.range (t + 1)).map s

theorem C14_demo_local : Local demoSpec (dependsOn demoBelow) := by
  intro t s s' h
  refine List.map_congr_left fun c hc => h c ?_
  have : c < t + 1 := List.mem_range.mp hc
  simp only [dependsOn, demoBelow, Bool.or_eq_true, decide_eq_true_eq]
  omega

example : run (Pint.Gen.GroupPolicy.clearedBy demoBelow) demoSpec (fun _ => 0) (fun _ => none)
      [.read 2, .read 1, .edit 0 5, .read 2, .read 1, .edit 2 7, .read 1, .read 2, .edit 1 3, .read 0, .read 2]
    = runSpec demoSpec (fun _ => 0)
      [.read 2, .read 1, .edit 0 5, .read 2, .read 1, .edit 2 7, .read 1, .read 2, .edit 1 3, .read 0, .read 2] := by decide

/-- **`Covers` is needed** (the shape of F10, F91 and of the seeded changes that skip an invalidation); the witnesses are given in the proof -/
theorem C14_uncovered_counterexample :
    ∃ (clearedBy dep : Bool → Bool → Bool) (spec : Bool → St Bool → Nat) (ops : List (Op Bool)),
      Local spec dep ∧ ¬ Covers clearedBy dep ∧ run clearedBy spec (fun _ => 0) (fun _ => none) ops ≠ runSpec spec (fun _ => 0) ops := by
  refine ⟨fun c t => decide (c = t), fun t c => decide (t = true ∨ t = c), fun t s => if t then s true + s false else s false,
    [.read true, .edit false 1, .read true], ?_, ?_, by decide⟩
  · intro t s s' h
    cases t
    · simp; exact h false (by decide)
    · simp; rw [h true (by decide), h false (by decide)]
  · intro h
    have := h false true (by decide)
    simp at this

end Pint.Props.C14Memo
