/-
  C18 — copy, pickle and tuple serialisation preserve objects; registries stay isolated.

  Model: `PintModel/Model/Serial.lean` (`toTuple`/`fromTuple`, container state, `reduceQ`,
  `unpickleQ` through the application registry, `check`), the regenerated tables
  `Gen/ErrorTables.lean` (constructor parameters, stored attributes and `__reduce__` tuples of
  every class of `pint/errors.py`; the `__reduce__` hooks of Quantity / Unit / Measurement).
  The pickle byte stream, `copy.deepcopy` of a registry's object graph and the lazy / application
  registry wrappers are Python runtime: their observable results are compared by the harness.
-/
import PintModel.Model.Serial
import PintModel.Gen.ErrorTables
import PintModel.Proofs.DictLemmas

namespace Pint.Props.C18
open Pint Pint.Ser

theorem C18_tuple (q : Qty) : fromTuple (toTuple q) = q := rfl

theorem C18_tuple_inv (t : Rat × List (String × Rat)) : toTuple (fromTuple t) = t := rfl

/-- the state round trip restores the dictionary and resets the hash memo (so the C04 memo invariant holds) -/
theorem C18_state (o : UCObj) : (setstate (getstate o)).d = o.d ∧ (setstate (getstate o)).Inv := by
  exact ⟨rfl, Or.inl rfl⟩

/-- rebuilding from the `__reduce__` arguments gives the same magnitude and units -/
theorem C18_reduce (app R' : Registry) (q q' : Qty) (h : unpickleQ app (reduceQ q) = .ok (R', q')) : q' = q := by
  unfold unpickleQ reduceQ at h
  split at h
  · cases h
  · cases h; rfl

/-- an undefined name makes the rebuild fail (the object is not silently attached) -/
theorem C18_unpickle_undefined (app : Registry) (m : Rat) (k : String) (rest : UC) (e : Err) (x : Rat)
    (h : app.getName k = .error e) : unpickleQ app (m, (k, x) :: rest) = .error e := by
  simp [unpickleQ, UC.keys, registerNames, h]

/-- every branch of `getName` returns the registry it was given or that registry with one more key -/
theorem getName_keeps {R R' : Registry} {s n k : String} {cs : Option Bool} (h : R.getName s cs = .ok (n, R'))
    (hk : (R.units.find? k).isSome) : (R'.units.find? k).isSome := by
  unfold Registry.getName at h
  grind [Dict.find?_insert]

theorem getName_registers {R R' : Registry} {s n : String} {cs : Option Bool} (h : R.getName s cs = .ok (n, R'))
    (hs : s ≠ "dimensionless") (hn : R.units.find? s = none)
    {p u x : String} {rest : List (String × String × String)} (hp : R.parseUnitName s cs = (p, u, x) :: rest)
    (hpre : p ≠ "") : (R'.units.find? (p ++ u)).isSome := by
  unfold Registry.getName at h
  grind [Dict.find?_insert]

/-- `_unpickle` only adds to the application registry -/
theorem C18_unpickle_monotone (names : List String) (app R' : Registry) (h : registerNames names app = .ok R') (k : String)
    (hk : (app.units.find? k).isSome) : (R'.units.find? k).isSome := by
  induction names generalizing app with
  | nil => cases h; exact hk
  | cons a t ih =>
    unfold registerNames at h
    split at h
    · cases h
    · rename_i n R1 hg
      exact ih R1 h (getName_keeps hg hk)

/-- a prefixed name mentioned by the pickled container is registered in the application registry before the object is built -/
theorem C18_unpickle_registers (app R1 R' : Registry) (s n : String) (t : List String)
    (hg : app.getName s = .ok (n, R1)) (h : registerNames t R1 = .ok R')
    (hs : s ≠ "dimensionless") (hn : app.units.find? s = none)
    {p u x : String} {rest : List (String × String × String)} (hp : app.parseUnitName s none = (p, u, x) :: rest)
    (hpre : p ≠ "") : (R'.units.find? (p ++ u)).isSome :=
  C18_unpickle_monotone t R1 R' h (p ++ u) (getName_registers hg hs hn hp hpre)

/-- the `__reduce__` of an exception class hands back, in constructor order, exactly the attributes that store its
    constructor parameters, and rebuilds through its own class -/
def reduceFaithful (c : Gen.ErrClass) : Bool :=
  c.hasReduce && c.reduceCls == "self.__class__" &&
  c.reduce == c.params.map (fun p => match c.stores.find? (·.2 == p) with | some (a, _) => a | none => "?" ++ p)

theorem C18_errors : ∀ c ∈ Gen.errorClasses, c.params ≠ [] → reduceFaithful c = true := by decide +kernel

/-- `C18_errors` is not vacuous: at least eight classes of `pint/errors.py` take constructor arguments -/
theorem C18_errors_nonempty : (Gen.errorClasses.filter (fun c => c.params ≠ [])).length ≥ 8 := by decide +kernel

/-- Quantity, Unit and Measurement rebuild through the application-registry helpers with (class, state…) -/
theorem C18_hooks : Gen.reduceHooks =
    [("PlainQuantity", "_unpickle_quantity", ["PlainQuantity", "self.magnitude", "self._units"]),
     ("PlainUnit", "_unpickle_unit", ["PlainUnit", "self._units"]),
     ("Measurement", "_unpickle_measurement", ["Measurement", "self.magnitude", "self._units"])] := by decide +kernel

/-- `_check` : same registry → True, an object without a registry → False, another registry → ValueError -/
theorem C18_check (r : Nat) : check r (some r) = .ok true ∧ check r none = .ok false ∧
    ∀ r', r' ≠ r → check r (some r') = .error .value := by
  refine ⟨by simp [check], rfl, ?_⟩
  intro r' h; simp [check, h]

/-- arithmetic and ordering between objects of different registries raise ValueError -/
theorem C18_isolated (op : Op) (ra rb : Nat) (h : ra ≠ rb) : crossOp op ra rb = .error .value := by
  have : rb ≠ ra := fun e => h e.symm
  simp [crossOp, check, this]

theorem C18_same_registry (op : Op) (r : Nat) : crossOp op r r = .ok () := by simp [crossOp, check]

end Pint.Props.C18
