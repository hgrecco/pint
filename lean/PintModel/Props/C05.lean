/-
  C05 — equality, ordering and hashing agree with physical value.

  Model: `Registry.qeq` (`__eq__`, with the F2 repair), `Registry.compare`, `Registry.hashKey`
  (`__hash__` up to the injective choice of base units), `Registry.qbool`.
-/
import PintModel.Model.Quantity
import PintModel.Proofs.QtyLemmas

namespace Pint.Props.C05
open Pint Pint.Registry

section
variable {R : Registry} {S : String → Prop} (hW : R.WFintOn S) (m : Mode)
variable {a b c : Qty} {fa fb fc : Rat} {ua ub uc da db dc : UC}
include hW

/-- two quantities in multiplicative units compare equal exactly when they have the same
    dimensionality and equal magnitudes in root units -/
theorem C05_eq_spec (ha : Good R S a fa ua da) (hb : Good R S b fb ub db) :
    R.qeq m a (.q b) = .ok (decide (da.beq db = true ∧ a.mag * fa = b.mag * fb)) :=
  qeq_char hW m ha hb

/-- == across dimensions is False, ordering raises DimensionalityError -/
theorem C05_cross_dim (op : CmpOp) (ha : Good R S a fa ua da) (hb : Good R S b fb ub db)
    (hne : da.beq db = false) :
    R.qeq m a (.q b) = .ok false ∧ R.compare m op a (.q b) = .error .dimensionality := by
  refine ⟨by rw [qeq_char hW m ha hb]; simp [hne], ?_⟩
  exact compare_dim_error' m op ha.dim hb.dim hne
    (fun h => by rw [(ha.congr hW hb h).2] at hne; cases hne)

theorem C05_eq_refl (ha : Good R S a fa ua da) : R.qeq m a (.q a) = .ok true :=
  (qeq_true_iff hW m ha ha).mpr ⟨UC.beq_refl ha.dim_canon.1, rfl⟩

theorem C05_eq_symm (ha : Good R S a fa ua da) (hb : Good R S b fb ub db)
    (h : R.qeq m a (.q b) = .ok true) : R.qeq m b (.q a) = .ok true :=
  let ⟨h1, h2⟩ := (qeq_true_iff hW m ha hb).mp h
  (qeq_true_iff hW m hb ha).mpr ⟨UC.beq_comm db da ▸ h1, h2.symm⟩

theorem C05_eq_trans (ha : Good R S a fa ua da) (hb : Good R S b fb ub db) (hc : Good R S c fc uc dc)
    (h1 : R.qeq m a (.q b) = .ok true) (h2 : R.qeq m b (.q c) = .ok true) :
    R.qeq m a (.q c) = .ok true :=
  let ⟨d1, v1⟩ := (qeq_true_iff hW m ha hb).mp h1
  let ⟨d2, v2⟩ := (qeq_true_iff hW m hb hc).mp h2
  (qeq_true_iff hW m ha hc).mpr ⟨UC.beq_trans d1 d2, v1.trans v2⟩

/-- for comparable quantities in positively scaled units the order is the order of the
    root-unit magnitudes -/
theorem C05_order_spec (op : CmpOp) (ha : Good R S a fa ua da) (hb : Good R S b fb ub db)
    (he : da.beq db = true) (hpos : 0 < fa)
    (hra : RootGood R S ua da) (hrb : RootGood R S ub db) :
    R.compare m op a (.q b) = .ok (op.app (a.mag * fa) (b.mag * fb)) := by
  rw [compare_char hW m ha hb op hpos hra hrb, if_pos he]

/-- … hence exactly one of <, ==, > holds -/
theorem C05_trichotomy (ha : Good R S a fa ua da) (hb : Good R S b fb ub db)
    (he : da.beq db = true) (hpos : 0 < fa)
    (hra : RootGood R S ua da) (hrb : RootGood R S ub db) :
    ∃ lt eq gt, R.compare m .lt a (.q b) = .ok lt ∧ R.qeq m a (.q b) = .ok eq ∧
      R.compare m .gt a (.q b) = .ok gt ∧
      ((lt = true ∧ eq = false ∧ gt = false) ∨ (lt = false ∧ eq = true ∧ gt = false) ∨
       (lt = false ∧ eq = false ∧ gt = true)) := by
  refine ⟨_, _, _, C05_order_spec hW m .lt ha hb he hpos hra hrb, qeq_char hW m ha hb,
    C05_order_spec hW m .gt ha hb he hpos hra hrb, ?_⟩
  simp only [CmpOp.app, he, true_and, decide_eq_true_eq, decide_eq_false_iff_not, gt_iff_lt]
  by_cases h1 : a.mag * fa < b.mag * fb
  · left; refine ⟨h1, ?_, ?_⟩ <;> grind
  · by_cases h2 : a.mag * fa = b.mag * fb
    · right; left; refine ⟨h1, h2, ?_⟩; grind
    · right; right; refine ⟨h1, h2, ?_⟩; grind

/-- equal quantities have equal hashes (same root units: both hash keys coincide) -/
theorem C05_hash (ha : Good R S a fa ua da) (hb : Good R S b fb ub db)
    (hv : a.mag * fa = b.mag * fb) (hu : ua = ub)
    (hra : RootGood R S ua da) (hrb : RootGood R S ub db) :
    R.hashKey m a = R.hashKey m b := by
  subst hu
  obtain ⟨du, h1, h2⟩ := hashKey_good hW m ha hra
  obtain ⟨du', h1', h2'⟩ := hashKey_good hW m hb hrb
  rw [h1] at h1'; cases h1'
  rw [h2, h2', hv]

end

/-- the repaired zero shortcut (F2): when an operand is in offset units the both-zero branch
    is not taken — the answer is the converted comparison even for two zero magnitudes -/
theorem C05_zero_shortcut_guard (R : Registry) (m : Mode) (a b : Qty) (v : Rat)
    (h : R.isMultQ a = false) (hu : a.units.beq b.units = false)
    (hc : R.convertTo m a b.units = .ok v) :
    R.qeq m a (.q b) = .ok (v == b.mag) := by
  unfold qeq; simp [h, hu, hc]

/-- against a non-zero bare number a quantity that is not dimensionless is unequal, and ordering raises `ValueError` -/
theorem C05_bare_number (R : Registry) (m : Mode) (op : CmpOp) (a : Qty) (x : Rat)
    (hd : R.dimensionless m a = .ok false) (hx : x ≠ 0) :
    R.compare m op a (.num x) = .error .value ∧ R.qeq m a (.num x) = .ok false := by
  constructor
  · unfold Registry.compare; simp [hd, hx]
  · unfold qeq; simp [hd, hx]

end Pint.Props.C05
