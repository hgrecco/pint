/-
  C01 — conversion succeeds exactly between units of identical dimensionality.

  Model: `Registry.getDimensionality` (`_get_dimensionality[_recurse]`), `Registry.convFactor`,
  `Registry.convertPlain` (`_get_conversion_factor`, `_convert`).
-/
import PintModel.Proofs.DimLemmas
import PintModel.Proofs.RootLemmas
import PintModel.Props.C04
import PintModel.Gen.DefaultRegistry

namespace Pint.Props.C01
open Pint Pint.UC Pint.Registry

/-- the relation on which conversion succeeds (`C01_convert_iff`): both dimensionalities are defined and `==` as
    dicts -/
def Compat (R : Registry) (a b : UC) : Prop :=
  ∃ da db, R.getDimensionality a = .ok da ∧ R.getDimensionality b = .ok db ∧ da.beq db = true

/-- every dimensionality the registry reports is in canonical form -/
theorem dim_canon (R : Registry) {u du : UC} (h : R.getDimensionality u = .ok du) : du.Canon :=
  R.getDim_canon h

theorem dim_beq_iff (R : Registry) {a b da db : UC}
    (ha : R.getDimensionality a = .ok da) (hb : R.getDimensionality b = .ok db) :
    da.beq db = true ↔ Equiv da db := C04.eq_iff (R.getDim_canon ha) (R.getDim_canon hb)

theorem dim_merge (R : Registry) (s : Rat) {a b da db : UC} (hn : a.keys.Nodup)
    (ha : R.getDimensionality a = .ok da) (hb : R.getDimensionality b = .ok db) :
    ∃ dab, R.getDimensionality (merge s a b) = .ok dab ∧ dab.beq (merge s da db) = true := by
  obtain ⟨dab, h1, h2, h3⟩ := R.getDim_merge s hn ha hb
  refine ⟨dab, h1, (C04.eq_iff h2 (canon_merge s (R.getDim_canon ha) db)).mpr fun d => ?_⟩
  rw [h3, get_merge s da (R.getDim_canon hb).1]

theorem dim_mul (R : Registry) {a b da db : UC} (hn : a.keys.Nodup)
    (ha : R.getDimensionality a = .ok da) (hb : R.getDimensionality b = .ok db) :
    ∃ dab, R.getDimensionality (a.mul b) = .ok dab ∧ dab.beq (da.mul db) = true := by
  simpa only [mul_eq_merge] using dim_merge R 1 hn ha hb

theorem dim_div (R : Registry) {a b da db : UC} (hn : a.keys.Nodup)
    (ha : R.getDimensionality a = .ok da) (hb : R.getDimensionality b = .ok db) :
    ∃ dab, R.getDimensionality (a.div b) = .ok dab ∧ dab.beq (da.div db) = true := by
  simpa only [div_eq_merge] using dim_merge R (-1) hn ha hb

theorem dim_pow (R : Registry) (r : Rat) {a da : UC}
    (ha : R.getDimensionality a = .ok da) :
    ∃ dr, R.getDimensionality (a.pow r) = .ok dr ∧ dr.beq (da.pow r) = true := by
  obtain ⟨dr, h1, h2, h3⟩ := R.getDim_pow r ha
  refine ⟨dr, h1, (C04.eq_iff h2 (C04.canon_pow (R.getDim_canon ha) r)).mpr fun d => ?_⟩
  rw [h3, C04.exp_pow (R.getDim_canon ha).1, Rat.mul_comm]

theorem compat_refl (R : Registry) {a da : UC} (h : R.getDimensionality a = .ok da) : Compat R a a :=
  ⟨da, da, h, h, beq_refl (R.getDim_canon h).1⟩

theorem compat_symm (R : Registry) {a b : UC} (h : Compat R a b) : Compat R b a := by
  obtain ⟨da, db, ha, hb, he⟩ := h
  exact ⟨db, da, hb, ha, beq_comm da db ▸ he⟩

theorem compat_trans (R : Registry) {a b c : UC} (h1 : Compat R a b) (h2 : Compat R b c) : Compat R a c := by
  obtain ⟨da, db, ha, hb, he⟩ := h1
  obtain ⟨db', dc, hb', hc, he'⟩ := h2
  cases hb.symm.trans hb'
  exact ⟨da, dc, ha, hc, beq_trans he he'⟩

theorem compat_merge (R : Registry) (s : Rat) {a a' b b' : UC} (hn : a.keys.Nodup) (hn' : a'.keys.Nodup)
    (h1 : Compat R a a') (h2 : Compat R b b') : Compat R (merge s a b) (merge s a' b') := by
  obtain ⟨da, da', ha, ha', hea⟩ := h1
  obtain ⟨db, db', hb, hb', heb⟩ := h2
  obtain ⟨d1, p1, c1, v1⟩ := R.getDim_merge s hn ha hb
  obtain ⟨d2, p2, c2, v2⟩ := R.getDim_merge s hn' ha' hb'
  refine ⟨d1, d2, p1, p2, (C04.eq_iff c1 c2).mpr fun d => ?_⟩
  rw [v1, v2, (dim_beq_iff R ha ha').mp hea, (dim_beq_iff R hb hb').mp heb]

theorem compat_mul (R : Registry) {a a' b b' : UC} (hn : a.keys.Nodup) (hn' : a'.keys.Nodup)
    (h1 : Compat R a a') (h2 : Compat R b b') : Compat R (a.mul b) (a'.mul b') := by
  simpa only [mul_eq_merge] using compat_merge R 1 hn hn' h1 h2

theorem compat_div (R : Registry) {a a' b b' : UC} (hn : a.keys.Nodup) (hn' : a'.keys.Nodup)
    (h1 : Compat R a a') (h2 : Compat R b b') : Compat R (a.div b) (a'.div b') := by
  simpa only [div_eq_merge] using compat_merge R (-1) hn hn' h1 h2

theorem compat_pow (R : Registry) (r : Rat) {a a' : UC} (h1 : Compat R a a') :
    Compat R (a.pow r) (a'.pow r) := by
  obtain ⟨da, da', ha, ha', hea⟩ := h1
  obtain ⟨d1, p1, c1, v1⟩ := R.getDim_pow r ha
  obtain ⟨d2, p2, c2, v2⟩ := R.getDim_pow r ha'
  refine ⟨d1, d2, p1, p2, (C04.eq_iff c1 c2).mpr fun d => ?_⟩
  rw [v1, v2, (dim_beq_iff R ha ha').mp hea]

/-- different dimensionality: `DimensionalityError`, and no number is returned -/
theorem C01_error_kind (R : Registry) {a b da db : UC}
    (ha : R.getDimensionality a = .ok da) (hb : R.getDimensionality b = .ok db)
    (hne : da.beq db = false) (x : Rat) :
    R.convFactor a b = .error .dimensionality ∧ R.convertPlain x a b = .error .dimensionality := by
  have h1 : R.convFactor a b = .error .dimensionality := by rw [R.convFactor_of_dims ha hb, hne]; rfl
  exact ⟨h1, by unfold convertPlain; rw [h1]⟩

theorem C01_success_implies_compat (R : Registry) {a b da db : UC} {x y : Rat}
    (ha : R.getDimensionality a = .ok da) (hb : R.getDimensionality b = .ok db)
    (hy : R.convertPlain x a b = .ok y) : da.beq db = true := by
  cases h : da.beq db with
  | true => rfl
  | false =>
    have := (C01_error_kind R ha hb h x).2
    rw [this] at hy; cases hy

/-- For units with integer exponents whose expansions are exact, relative to a set `S` of names closed under
    references (`WFintOn S`; for the bundled registry `C02_default_wfint`), and with both root expansions defined:
    the conversion returns a number iff the dimensionalities are equal. -/
theorem C01_convert_iff_on (R : Registry) {S : String → Prop} (hW : R.WFintOn S)
    {a b da db ua ub : UC} {fa fb : Rat}
    (hIa : IntUC a) (hIb : IntUC b) (hKa : KeysIn S a) (hKb : KeysIn S b) (hn : a.keys.Nodup)
    (ha : R.getDimensionality a = .ok da) (hb : R.getDimensionality b = .ok db)
    (ra : R.getRootUnits a = .ok (fa, ua)) (rb : R.getRootUnits b = .ok (fb, ub)) (x : Rat) :
    (∃ y, R.convertPlain x a b = .ok y) ↔ da.beq db = true := by
  rw [R.convertPlain_char hW hIa hIb hKa hKb hn ha hb ra rb]
  cases da.beq db <;> simp

/-- the same with `S` = all names: every definition of the registry has to be exact (the bundled
    registry's are not: `planck_length = hbar ** 0.5 …`) -/
theorem C01_convert_iff (R : Registry) (hW : R.WFint) {a b da db ua ub : UC} {fa fb : Rat}
    (hIa : IntUC a) (hIb : IntUC b) (hn : a.keys.Nodup)
    (ha : R.getDimensionality a = .ok da) (hb : R.getDimensionality b = .ok db)
    (ra : R.getRootUnits a = .ok (fa, ua)) (rb : R.getRootUnits b = .ok (fb, ub)) (x : Rat) :
    (∃ y, R.convertPlain x a b = .ok y) ↔ da.beq db = true :=
  C01_convert_iff_on R hW hIa hIb (keysIn_true a) (keysIn_true b) hn ha hb ra rb x

/-! Non-vacuity on the bundled registry; for whole-table definedness see `C20_all`, `C02_default_wfint`. -/

theorem ok_of_toOption {ε α : Type} {x : Except ε α} {v : α} (h : x.toOption = some v) : x = .ok v :=
  Except.eq_ok_of_toOption h

set_option maxRecDepth 100000 in
example : Compat Gen.defaultRegistry [("inch", 1)] [("kilometer", 1)] := by
  have ⟨h1, h2⟩ : (Gen.defaultRegistry.getDimensionality [("inch", 1)]).toOption = some [("[length]", 1)] ∧
      (Gen.defaultRegistry.getDimensionality [("kilometer", 1)]).toOption = some [("[length]", 1)] := by
    decide +kernel
  exact ⟨_, _, ok_of_toOption h1, ok_of_toOption h2, by decide +kernel⟩

set_option maxRecDepth 100000 in
example : ∃ da db, Gen.defaultRegistry.getDimensionality [("newton", 1)] = .ok da ∧
    Gen.defaultRegistry.getDimensionality [("joule", 1)] = .ok db ∧ da.beq db = false := by
  have ⟨h1, h2⟩ : (Gen.defaultRegistry.getDimensionality [("newton", 1)]).toOption =
        some [("[mass]", 1), ("[length]", 1), ("[time]", -2)] ∧
      (Gen.defaultRegistry.getDimensionality [("joule", 1)]).toOption =
        some [("[mass]", 1), ("[length]", 2), ("[time]", -2)] := by
    decide +kernel
  exact ⟨_, _, ok_of_toOption h1, ok_of_toOption h2, by decide +kernel⟩

end Pint.Props.C01
