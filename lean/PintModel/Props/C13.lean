/-
  C13 — answers do not depend on query history: caches are transparent.

  The model functions (`getDimensionality`, `getRootUnits`, `convFactor`, `parseUnitsContainer`,
  `getBaseUnits`, …) have no memo at all: they *are* the specification `spec decl q`.  What the
  implementation adds is a family of memo tables (`RegistryCache`, overlays, `_base_units_cache`,
  per-object `_dimensionality`).  This file proves the memo discipline those tables must follow;
  the implementation is compared with the memo-free model after every step of generated
  histories (and with a fresh registry brought to the same declarative state).
-/
import PintModel.Model.Registry
import PintModel.Model.GroupSys

namespace Pint.Props.C13

variable {κ ν : Type} [DecidableEq κ]

structure Memo (κ ν : Type) where
  table : List (κ × ν) := []

def Memo.find (m : Memo κ ν) (k : κ) : Option ν := (m.table.find? (·.1 = k)).map (·.2)

/-- `try: return cache[k] except KeyError: v = f(k); cache[k] = v; return v` -/
def Memo.get (m : Memo κ ν) (f : κ → ν) (k : κ) : ν × Memo κ ν :=
  match m.find k with
  | some v => (v, m)
  | none => (f k, { table := (k, f k) :: m.table })

/-- every memoized answer is the uncached answer -/
def MemoInv (m : Memo κ ν) (f : κ → ν) : Prop := ∀ p ∈ m.table, p.2 = f p.1

omit [DecidableEq κ] in
theorem inv_empty (f : κ → ν) : MemoInv ({} : Memo κ ν) f := by
  intro p hp; cases hp

theorem find_sound {m : Memo κ ν} {f : κ → ν} (h : MemoInv m f) {k : κ} {v : ν} (hf : m.find k = some v) : v = f k := by
  obtain ⟨p, hx, rfl⟩ := Option.map_eq_some_iff.mp hf
  have hk : p.1 = k := by simpa using List.find?_some hx
  rw [h p (List.mem_of_find?_eq_some hx), hk]

theorem C13_memo_step (m : Memo κ ν) (f : κ → ν) (h : MemoInv m f) (k : κ) :
    (m.get f k).1 = f k ∧ MemoInv (m.get f k).2 f := by
  unfold Memo.get
  cases hf : m.find k with
  | some v => exact ⟨find_sound h hf, h⟩
  | none => exact ⟨rfl, List.forall_mem_cons.mpr ⟨rfl, h⟩⟩

def runQueries (f : κ → ν) : Memo κ ν → List κ → List ν × Memo κ ν
  | m, [] => ([], m)
  | m, k :: ks =>
    let (v, m') := m.get f k
    let (vs, m'') := runQueries f m' ks
    (v :: vs, m'')

/-- **transparency for every history**: whatever was asked before, every answer equals the
    uncached answer -/
theorem C13_transparent (f : κ → ν) (m : Memo κ ν) (h : MemoInv m f) (ks : List κ) :
    (runQueries f m ks).1 = ks.map f ∧ MemoInv (runQueries f m ks).2 f := by
  induction ks generalizing m with
  | nil => exact ⟨rfl, h⟩
  | cons k ks ih =>
    obtain ⟨h1, h2⟩ := C13_memo_step m f h k
    obtain ⟨i1, i2⟩ := ih (m.get f k).2 h2
    simp only [runQueries, List.map_cons]
    exact ⟨by rw [h1, i1], i2⟩

/-- a change of the declarative state (new definition, other default system, other context
    stack) replaces `f` by `f'`: the table stays valid if it is cleared, or if every kept entry is
    unaffected by the change -/
theorem C13_state_change_cleared (f' : κ → ν) : MemoInv ({} : Memo κ ν) f' := inv_empty f'

theorem C13_state_change_kept (m : Memo κ ν) (f f' : κ → ν) (h : MemoInv m f)
    (hstable : ∀ p ∈ m.table, f' p.1 = f p.1) : MemoInv m f' := by
  intro p hp; rw [h p hp, hstable p hp]

/-- a table keyed without part of the declarative state is *not* transparent: witness (the shape
    of findings F8a / the seeded hash-keyed cache) -/
theorem C13_wrong_key_counterexample :
    ∃ (f g : Nat → Nat) (m : Memo Nat Nat), MemoInv m f ∧ (m.get g 0).1 ≠ g 0 := by
  refine ⟨fun _ => 1, fun _ => 2, { table := [(0, 1)] }, ?_, ?_⟩
  · intro p hp; simp at hp; subst hp; rfl
  · decide

/-- two registries share no table: a step on registry A leaves B's memo and hence B's answers unchanged -/
theorem C13_isolated (fA fB : κ → ν) (mA mB : Memo κ ν) (k : κ) :
    let mA' := (mA.get fA k).2
    (mA', mB).2 = mB := rfl

/-- an operation of a history: ask for `k`, or replace the declarative state (a definition, a new
    default system, another context stack …) -/
inductive Op (σ κ : Type)
  | query (k : κ)
  | change (s : σ)

/-- the memo-free reference: every query is answered by the specification of the current state -/
def runSpec {σ : Type} (spec : σ → κ → ν) : σ → List (Op σ κ) → List ν
  | _, [] => []
  | s, .query k :: t => spec s k :: runSpec spec s t
  | _, .change s' :: t => runSpec spec s' t

/-- policy 1 (pint's `_build_cache` / `default_system` setter): the table is cleared by every change of state -/
def runClearing {σ : Type} (spec : σ → κ → ν) : σ → Memo κ ν → List (Op σ κ) → List ν
  | _, _, [] => []
  | s, m, .query k :: t => (m.get (spec s) k).1 :: runClearing spec s (m.get (spec s) k).2 t
  | _, _, .change s' :: t => runClearing spec s' {} t

theorem C13_history_clearing {σ : Type} (spec : σ → κ → ν) (s : σ) (m : Memo κ ν) (h : MemoInv m (spec s))
    (ops : List (Op σ κ)) : runClearing spec s m ops = runSpec spec s ops := by
  induction ops generalizing s m with
  | nil => rfl
  | cons o t ih =>
    cases o with
    | query k =>
      obtain ⟨h1, h2⟩ := C13_memo_step m (spec s) h k
      simp only [runClearing, runSpec]
      rw [h1, ih s _ h2]
    | change s' =>
      simp only [runClearing, runSpec]
      exact ih s' {} (inv_empty _)

/-- policy 2 (pint's per-context-stack overlays, `_caches[active contexts]`): the table is keyed by the
    state component as well and never cleared -/
def runKeyed {σ : Type} [DecidableEq σ] (spec : σ → κ → ν) : σ → Memo (σ × κ) ν → List (Op σ κ) → List ν
  | _, _, [] => []
  | s, m, .query k :: t =>
    (m.get (fun p => spec p.1 p.2) (s, k)).1 :: runKeyed spec s (m.get (fun p => spec p.1 p.2) (s, k)).2 t
  | _, m, .change s' :: t => runKeyed spec s' m t

/-- **any history, keyed policy**: answers computed in one state are never served in another -/
theorem C13_history_keyed {σ : Type} [DecidableEq σ] (spec : σ → κ → ν) (s : σ) (m : Memo (σ × κ) ν)
    (h : MemoInv m (fun p => spec p.1 p.2)) (ops : List (Op σ κ)) :
    runKeyed spec s m ops = runSpec spec s ops := by
  induction ops generalizing s m with
  | nil => rfl
  | cons o t ih =>
    cases o with
    | query k =>
      obtain ⟨h1, h2⟩ := C13_memo_step m (fun p => spec p.1 p.2) h (s, k)
      simp only [runKeyed, runSpec]
      rw [h1, ih s _ h2]
    | change s' =>
      simp only [runKeyed, runSpec]
      exact ih s' m h

/-- the clearing policy instantiated with the model's own functions: base units (keyed by units and system, cleared
    when the registry, the groups/systems or the default system change) and, next, root units -/
theorem C13_base_units_history (s : Registry × GS.State) (ops : List (Op (Registry × GS.State) (UC × Option String))) :
    runClearing (fun (st : Registry × GS.State) (q : UC × Option String) => GS.getBaseUnits st.1 st.2 q.1 q.2) s {} ops =
    runSpec (fun (st : Registry × GS.State) (q : UC × Option String) => GS.getBaseUnits st.1 st.2 q.1 q.2) s ops :=
  C13_history_clearing _ s {} (inv_empty _) ops

theorem C13_root_units_history (R : Registry) (ops : List (Op Registry UC)) :
    runClearing (fun (R : Registry) (u : UC) => R.getRootUnits u) R {} ops =
    runSpec (fun (R : Registry) (u : UC) => R.getRootUnits u) R ops :=
  C13_history_clearing _ R {} (inv_empty _) ops

end Pint.Props.C13
