/-
  C09 — every textual format denotes the unit exactly (structure level).

  `Fmt.formatterExpr` records the decisions `formatter` takes before style strings are substituted;
  `C09_formatter_is_render` shows that the text `formatter` writes IS the rendering of that structure
  for every style; `C09_denote_exact` shows that the structure stands for exactly the unit that was
  formatted — for every unit, every style class (ratio / product, grouped or sequential denominator)
  and every display-name map that keeps names distinct.
-/
import PintModel.Props.C09
import PintModel.Model.FormatDenote
import PintModel.Proofs.FormatDenoteLemmas
import PintModel.Gen.FormatTables
import PintModel.Gen.DefaultRegistry

namespace Pint.Props.C09Denote
open Pint Pint.Fmt Pint.Fmt.DenoteLemmas

/-- the text written by `formatter` is the rendering of the structure, for every style and input -/
theorem C09_formatter_is_render (st : Style) (num den : List (String × Rat)) :
    formatter st num den = (formatterExpr st.asRatio st.singleDenominator num den).render st := by
  rw [formatter_eq, formatterExpr_eq, render_exprOf, List.mapM_map, List.mapM_map,
    List.isEmpty_map, List.isEmpty_map,
    show FTerm.render st ∘ posTerm st.asRatio = posText st from funext (render_posTerm st),
    show FTerm.render st ∘ negTerm st.asRatio = negText st from funext (render_negTerm st)]
  refine Option.bind_congr fun pos hpos => Option.bind_congr fun neg hneg => ?_
  rw [isEmpty_of_mapM hpos, isEmpty_of_mapM hneg]

/-- formatter level: numerator items with positive exponents, denominator items with negative
    exponents (what `prepare` hands over when as_ratio is set), pairwise distinct names: the written
    structure stands for exactly these items -/
theorem C09_denote_ratio (singleDen : Bool) (num den : List (String × Rat))
    (hk : (UC.keys (num ++ den)).Nodup) (hn : ∀ p ∈ num, 0 < p.2) (hd : ∀ p ∈ den, p.2 < 0) :
    UC.Equiv (formatterExpr true singleDen num den).denote (num ++ den) := fun k =>
  (get_denote_formatterExpr true singleDen num den (fun _ p hp => Rat.not_lt.mpr (Rat.le_of_lt (hn p hp)))
    (fun _ => hd) k).trans (sumGet_eq_get hk k)

set_option linter.unusedVariables false in  -- `hz` is not needed: zero exponents are written as they are
/-- without as_ratio every item is written with its own exponent -/
theorem C09_denote_product (singleDen : Bool) (num den : List (String × Rat))
    (hk : (UC.keys (num ++ den)).Nodup) (hz : ∀ p ∈ num ++ den, p.2 ≠ 0) :
    UC.Equiv (formatterExpr false singleDen num den).denote (num ++ den) := fun k =>
  (get_denote_formatterExpr false singleDen num den nofun nofun k).trans (sumGet_eq_get hk k)

/-- registry level, long names: for every canonical non-empty unit, every style class, what
    `prepare` + `formatter` write stands for exactly that unit -/
theorem C09_denote_exact (R : Registry) (u : UC) (hc : u.Canon) (hne : u ≠ [])
    (asRatio singleDen : Bool) :
    UC.Equiv (formatterExpr asRatio singleDen (prepare R u false asRatio).1 (prepare R u false asRatio).2).denote u := by
  intro k
  rw [get_denote_prepare R u hne, shown_long, sumGet_eq_get hc.1]

/-- registry level, short names (`~`): the same with every name replaced by its symbol, provided
    the symbols of the unit's names are pairwise distinct (F9 is the recorded case where symbols
    collide with OTHER units' spellings; inside one unit distinct names have distinct symbols for
    the bundled registry).  `hc` is not used: only the displayed names have to be distinct. -/
theorem C09_denote_exact_short (R : Registry) (u : UC) (hc : u.Canon) (hne : u ≠ [])
    (asRatio singleDen : Bool)
    (hs : ((u.map fun p => (match R.units.find? p.1 with | some d => d.sym | none => p.1))).Nodup) :
    UC.Equiv (formatterExpr asRatio singleDen (prepare R u true asRatio).1 (prepare R u true asRatio).2).denote
      (u.map fun p => ((match R.units.find? p.1 with | some d => d.sym | none => p.1), p.2)) :=
  fun k => (get_denote_prepare R u hne true asRatio singleDen k).trans
    (sumGet_eq_get (u := shown R true u) ((keys_shown R true u).symm ▸ hs) k)

/-- the empty unit: "dimensionless" (long) and the empty text (short) -/
theorem C09_denote_empty (R : Registry) (asRatio singleDen : Bool) :
    (formatterExpr asRatio singleDen (prepare R [] false asRatio).1 (prepare R [] false asRatio).2).denote
        = [("dimensionless", 1)] ∧
    (formatterExpr asRatio singleDen (prepare R [] true asRatio).1 (prepare R [] true asRatio).2) = .empty := by
  have h1 : prepare R [] false asRatio = ([("dimensionless", 1)], []) := rfl
  have h2 : prepare R [] true asRatio = ([], []) := rfl
  rw [h1, h2]
  cases asRatio <;> cases singleDen <;> exact ⟨by decide +kernel, rfl⟩

set_option linter.unusedVariables false in  -- `hk` is not needed (see below)
/-- sequential and grouped denominators stand for the same unit (the names need not even be
    distinct: both readings subtract every written exponent) -/
theorem C09_seq_eq_group (pos neg : List FTerm) (hk : (neg.map (·.name)).Nodup) :
    UC.Equiv (FExpr.ratioSeq pos neg).denote (FExpr.ratioGroup pos neg).denote :=
  seq_eq_group pos neg

/-! The hypotheses are met and the statement is not trivial: a concrete unit in every style. -/

def uEx : UC := [("kilogram", 1), ("meter", 2), ("second", -3), ("kelvin", -1)]

theorem uEx_canon : uEx.Canon := by
  unfold UC.Canon UC.NoZero
  decide +kernel

example : uEx.Canon := uEx_canon

/-- the structures chosen for the five generated styles (D, H, P, L, C) -/
example : (Gen.styles.map fun st =>
      formatterExpr st.asRatio st.singleDenominator (prepare Gen.defaultRegistry uEx false true).1
          (prepare Gen.defaultRegistry uEx false true).2) =
    [ .ratioSeq [⟨"kilogram", none⟩, ⟨"meter", some 2⟩] [⟨"kelvin", none⟩, ⟨"second", some 3⟩],
      .ratioGroup [⟨"kilogram", none⟩, ⟨"meter", some 2⟩] [⟨"kelvin", none⟩, ⟨"second", some 3⟩],
      .ratioSeq [⟨"kilogram", none⟩, ⟨"meter", some 2⟩] [⟨"kelvin", none⟩, ⟨"second", some 3⟩],
      .ratioGroup [⟨"kilogram", none⟩, ⟨"meter", some 2⟩] [⟨"kelvin", none⟩, ⟨"second", some 3⟩],
      .ratioSeq [⟨"kilogram", none⟩, ⟨"meter", some 2⟩] [⟨"kelvin", none⟩, ⟨"second", some 3⟩] ] := by
  decide +kernel

theorem uEx_renderings : ((Gen.styles.map fun st =>
      (formatterExpr st.asRatio st.singleDenominator (prepare Gen.defaultRegistry uEx false true).1
          (prepare Gen.defaultRegistry uEx false true).2).render st)) =
    [ some "kilogram * meter ** 2 / kelvin / second ** 3",
      some "kilogram meter<sup>2</sup>/(kelvin second<sup>3</sup>)",
      some "kilogram·meter²/kelvin/second³",
      some "\\frac[kilogram \\cdot meter^[2]][\\left(kelvin \\cdot second^[3]\\right)]",
      some "kilogram*meter**2/kelvin/second**3" ] := by
  decide +kernel

set_option maxRecDepth 100000 in
/-- their renderings; they are also what pint prints (checked by the correspondence; the LaTeX
    brackets become braces in `formatUnit`) -/
example : ((Gen.styles.map fun st =>
      (formatterExpr st.asRatio st.singleDenominator (prepare Gen.defaultRegistry uEx false true).1
          (prepare Gen.defaultRegistry uEx false true).2).render st)) =
    [ some "kilogram * meter ** 2 / kelvin / second ** 3",
      some "kilogram meter<sup>2</sup>/(kelvin second<sup>3</sup>)",
      some "kilogram·meter²/kelvin/second³",
      some "\\frac[kilogram \\cdot meter^[2]][\\left(kelvin \\cdot second^[3]\\right)]",
      some "kilogram*meter**2/kelvin/second**3" ] :=
  uEx_renderings

set_option maxRecDepth 100000 in
/-- the same text comes out of `formatter` itself -/
example : ((Gen.styles.map fun st =>
      formatter st (prepare Gen.defaultRegistry uEx false true).1
          (prepare Gen.defaultRegistry uEx false true).2)) =
    [ some "kilogram * meter ** 2 / kelvin / second ** 3",
      some "kilogram meter<sup>2</sup>/(kelvin second<sup>3</sup>)",
      some "kilogram·meter²/kelvin/second³",
      some "\\frac[kilogram \\cdot meter^[2]][\\left(kelvin \\cdot second^[3]\\right)]",
      some "kilogram*meter**2/kelvin/second**3" ] := by
  simp only [C09_formatter_is_render]
  exact uEx_renderings

/-- their denotations are the unit (as `dict.__eq__` computes it) -/
example : (Gen.styles.map fun st =>
      UC.beq (formatterExpr st.asRatio st.singleDenominator (prepare Gen.defaultRegistry uEx false true).1
          (prepare Gen.defaultRegistry uEx false true).2).denote uEx) = [true, true, true, true, true] := by
  decide +kernel

/-- the same as an instance of the theorem: every style, long names -/
example : ∀ st ∈ Gen.styles,
    UC.Equiv (formatterExpr st.asRatio st.singleDenominator (prepare Gen.defaultRegistry uEx false st.asRatio).1
        (prepare Gen.defaultRegistry uEx false st.asRatio).2).denote uEx :=
  fun st _ => C09_denote_exact Gen.defaultRegistry uEx uEx_canon (by decide) st.asRatio st.singleDenominator

/-- the product form (as_ratio = False) writes the signed exponents -/
example : formatterExpr false false (prepare Gen.defaultRegistry uEx false false).1
      (prepare Gen.defaultRegistry uEx false false).2 =
    .prod [⟨"kelvin", some (-1)⟩, ⟨"kilogram", none⟩, ⟨"meter", some 2⟩, ⟨"second", some (-3)⟩] := by
  decide +kernel

/-- a structure that does NOT stand for the unit exists (the statement can fail): writing the
    absolute value without dividing -/
example : ¬ UC.Equiv (FExpr.prod [⟨"meter", none⟩, ⟨"second", some 2⟩]).denote [("meter", 1), ("second", -2)] := by
  intro h
  exact absurd (h "second") (by decide +kernel)

end Pint.Props.C09Denote
