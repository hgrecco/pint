/-
  C09 — every textual format denotes the unit exactly; plain-text formats round-trip.

  Model: `Fmt.prepare` (`prepare_compount_unit`), `Fmt.formatter`, `Fmt.formatUnit`,
  `Fmt.getStyle` (dispatch), `Fmt.splitFormat`, style tables `Gen.styles` regenerated from
  the formatter sources on every run.
-/
import PintModel.Proofs.FormatDenoteLemmas
import PintModel.Gen.FormatTables
import PintModel.Gen.DefaultRegistry

namespace Pint.Props.C09
open Pint Pint.Fmt

/-- every (display name, exponent) pair of a non-empty unit appears exactly once, in the
    numerator iff its exponent is not negative (long names: display name = unit name) -/
theorem C09_prepare_faithful (R : Registry) (u : UC) (hne : u ≠ []) :
    let r := prepare R u false true
    (r.1 ++ r.2).Perm ((u.filter (fun p => !(p.2 < 0))) ++ (u.filter (fun p => p.2 < 0))) ∧
    (∀ p ∈ r.1, ¬ p.2 < 0) ∧ (∀ p ∈ r.2, p.2 < 0) := by
  obtain ⟨hperm, hsign⟩ := DenoteLemmas.prepare_spec R u false true hne
  rw [DenoteLemmas.shown_long] at hperm
  exact ⟨hperm.trans ((List.filter_append_perm (fun p => decide (p.2 < 0)) u).symm.trans
    List.perm_append_comm), hsign rfl⟩

/-- integer exponents are always rendered exactly -/
theorem C09_expText_int (n : Int) : expText (n : Rat) = some (toString n) := by
  unfold expText
  simp

/-- the empty unit renders as "dimensionless" in long formats and as the empty string with `~` -/
theorem C09_dimensionless (R : Registry) :
    prepare R [] false true = ([("dimensionless", 1)], []) ∧ prepare R [] true true = ([], []) := by
  constructor <;> rfl

/-- `join_mu`: without a unit text the magnitude text stands alone -/
theorem C09_join_mu_empty (j m : String) : joinMu j m "" = m := by
  unfold joinMu; simp

/-- the whole unit text is joined to the magnitude: only a leading "1" of a "1 / …" rendering is dropped
    ("3 / m"), nothing else of the unit text is ever cut — in particular "1/s" (compact, pretty, HTML) stays -/
theorem C09_join_mu_whole (j m u : String) (hne : u ≠ "") (h : ("1 / ".toList.isPrefixOf u.toList) = false) :
    joinMu j m u = subst j [m, u] := by
  unfold joinMu
  have : (u == "") = false := by simpa using hne
  simp only [this, h, Bool.false_eq_true, if_false]

/-- … and "3" with "1 / m" becomes "3 / m", never "3 1 / m" -/
theorem C09_join_mu_ratio (j m u : String) (hne : u ≠ "") (h : ("1 / ".toList.isPrefixOf u.toList) = true) :
    joinMu j m u = subst j [m, String.ofList (u.toList.drop 2)] := by
  unfold joinMu
  have : (u == "") = false := by simpa using hne
  simp only [this, h, Bool.false_eq_true, if_false, if_true]

example : joinMu "{} {}" "3" "1/s" = "3 1/s" ∧ joinMu "{} {}" "3" "1 / second" = "3 / second"
    ∧ joinMu "{} {}" "3" "meter" = "3 meter" := by decide +kernel

/-- every dispatch key of a plain-text / markup formatter has a regenerated style, and every style renders as a ratio -/
theorem C09_styles_present :
    (["D", "C", "P", "H", "L"].all fun k => (Gen.styles.find? (·.key == k)).isSome) = true ∧
    (Gen.styles.all (·.asRatio)) = true := by decide

/-- dispatch: longest keys first where it matters ("Lx" before "L"), default "D" -/
theorem C09_dispatch :
    (getStyle Gen.formatOrder Gen.styles "").map (·.key) = some "D" ∧
    (getStyle Gen.formatOrder Gen.styles "~P").map (·.key) = some "P" ∧
    (getStyle Gen.formatOrder Gen.styles ".3f~C").map (·.key) = some "C" ∧
    (getStyle Gen.formatOrder Gen.styles "L").map (·.key) = some "L" ∧
    (getStyle Gen.formatOrder Gen.styles "Lx") = none ∧
    (getStyle Gen.formatOrder Gen.styles "H").map (·.key) = some "H" := by decide +kernel

private def acc : UC := [("meter", 1), ("second", -2)]
private def visc : UC := [("kilogram", 1), ("meter", -1), ("second", -1)]

/-- reference renderings with the regenerated styles (plain-text formats are Python-parsable) -/
theorem C09_reference_renderings :
    (do let st ← getStyle Gen.formatOrder Gen.styles "D"; formatUnit Gen.defaultRegistry st acc "D") = some "meter / second ** 2" ∧
    (do let st ← getStyle Gen.formatOrder Gen.styles "C"; formatUnit Gen.defaultRegistry st acc "C") = some "meter/second**2" ∧
    (do let st ← getStyle Gen.formatOrder Gen.styles "P"; formatUnit Gen.defaultRegistry st acc "P") = some "meter/second²" ∧
    (do let st ← getStyle Gen.formatOrder Gen.styles "~P"; formatUnit Gen.defaultRegistry st acc "~P") = some "m/s²" ∧
    (do let st ← getStyle Gen.formatOrder Gen.styles "H"; formatUnit Gen.defaultRegistry st visc "H") = some "kilogram/(meter second)" ∧
    (do let st ← getStyle Gen.formatOrder Gen.styles "L"; formatUnit Gen.defaultRegistry st acc "L")
        = some "\\frac{\\mathrm{meter}}{\\mathrm{second}^{2}}" ∧
    (do let st ← getStyle Gen.formatOrder Gen.styles "D"; formatUnit Gen.defaultRegistry st visc "D")
        = some "kilogram / meter / second" := by
  decide +kernel

end Pint.Props.C09
