/-
  C15 — unit-rewriting helpers preserve the physical quantity.

  Model: `PintModel/Model/Rewrite.lean` (destination containers of `to_root_units`,
  `to_base_units`, `to_reduced_units`, `to_compact`; `_get_dimensionality_ratio`;
  `infer_base_unit`; exact `⌊log₁₀|m|⌋`), conversion: `Registry.convertTo` (C02).

  Every helper is `quantity.to(destination)`.  `C15_to_value` is the statement for an arbitrary
  destination, the `_shape` theorems say that each helper's result is either the input itself or
  such a conversion, and the `C15_*_value` corollaries put them together.  Hypotheses (`Good`,
  `GoodU`) are those of C03; `C02_default_wfint` discharges `WFintOn` for the bundled registry.
-/
import PintModel.Model.Rewrite
import PintModel.Proofs.QtyLemmas
import PintModel.Proofs.RewriteLemmas
import PintModel.Gen.DefaultRegistry

namespace Pint.Props.C15
open Pint Pint.UC Pint.Registry Pint.Rw

/-- a conversion `q.to(dst)` that returns a number keeps the dimensionality and the physical value
    (magnitude × root factor) -/
theorem C15_to_value {R : Registry} {S : String → Prop} (hW : R.WFintOn S) (m : Mode)
    {q : Qty} {dst uq ud dq dd : UC} {fq fd x' : Rat}
    (hq : Good R S q fq uq dq) (hd : GoodU R S dst fd ud dd)
    (h : R.convertTo m q dst = .ok x') :
    dq.beq dd = true ∧ x' * fd = q.mag * fq := by
  unfold Registry.convertTo at h
  rw [convert_char hW hq hd] at h
  split at h
  · next he => cases h; exact ⟨he, rat_conv_mul _ _ (hd.factor_ne_zero hW)⟩
  · cases h

theorem C15_root_shape {R : Registry} (m : Mode) {q q' : Qty} (h : R.toRoot m q = .ok q') :
    R.convertTo m q q'.units = .ok q'.mag := by
  unfold Registry.toRoot at h
  split at h
  · cases h
  · obtain ⟨rfl, h⟩ := Rw.to_ok h; exact h

theorem C15_base_shape {R : Registry} (gs : GS.State) (m : Mode) {q q' : Qty} (h : Rw.toBase R gs m q = .ok q') :
    R.convertTo m q q'.units = .ok q'.mag := by
  unfold Rw.toBase at h
  split at h
  · cases h
  · obtain ⟨rfl, h⟩ := Rw.to_ok h; exact h

theorem C15_reduced_shape {R : Registry} (m : Mode) {q q' : Qty} (h : Rw.toReduced R m q = .ok q') :
    q' = q ∨ R.convertTo m q q'.units = .ok q'.mag := by
  unfold Rw.toReduced at h
  split at h
  · cases h
  · cases h; exact Or.inl rfl
  · obtain ⟨rfl, h⟩ := Rw.to_ok h; exact Or.inr h

theorem C15_compact_shape {R : Registry} (m : Mode) {q q' : Qty} (unit : Option UC)
    (h : Rw.toCompact R m q unit = .ok q') :
    q' = q ∨ (Rw.regKeys R q'.units).convertTo m q q'.units = .ok q'.mag := by
  unfold Rw.toCompact at h
  split at h
  · cases h
  · cases h; exact Or.inl rfl
  · obtain ⟨rfl, h⟩ := Rw.to_ok h; exact Or.inr h

/-- a helper that returned its input: two `Good` descriptions of one container coincide -/
theorem value_self {R : Registry} {S : String → Prop}
    {q : Qty} {uq ud dq dd : UC} {fq fd : Rat}
    (hq : Good R S q fq uq dq) (hd : Good R S q fd ud dd) :
    dq.beq dd = true ∧ q.mag * fd = q.mag * fq := by
  obtain ⟨rfl, -⟩ := Prod.mk.inj (Except.ok.inj (hq.root.symm.trans hd.root))
  obtain rfl := Except.ok.inj (hq.dim.symm.trans hd.dim)
  exact ⟨beq_refl hd.dim_canon.1, rfl⟩

/-- each helper preserves dimensionality and physical value -/
theorem C15_root_value {R : Registry} {S : String → Prop} (hW : R.WFintOn S) (m : Mode)
    {q q' : Qty} {uq ud dq dd : UC} {fq fd : Rat}
    (hq : Good R S q fq uq dq) (hd : Good R S q' fd ud dd) (h : R.toRoot m q = .ok q') :
    dq.beq dd = true ∧ q'.mag * fd = q.mag * fq :=
  C15_to_value hW m hq hd (C15_root_shape m h)

theorem C15_base_value {R : Registry} {S : String → Prop} (hW : R.WFintOn S) (gs : GS.State) (m : Mode)
    {q q' : Qty} {uq ud dq dd : UC} {fq fd : Rat}
    (hq : Good R S q fq uq dq) (hd : Good R S q' fd ud dd) (h : Rw.toBase R gs m q = .ok q') :
    dq.beq dd = true ∧ q'.mag * fd = q.mag * fq :=
  C15_to_value hW m hq hd (C15_base_shape gs m h)

theorem C15_reduced_value {R : Registry} {S : String → Prop} (hW : R.WFintOn S) (m : Mode)
    {q q' : Qty} {uq ud dq dd : UC} {fq fd : Rat}
    (hq : Good R S q fq uq dq) (hd : Good R S q' fd ud dd) (h : Rw.toReduced R m q = .ok q') :
    dq.beq dd = true ∧ q'.mag * fd = q.mag * fq := by
  rcases C15_reduced_shape m h with rfl | h
  · exact value_self hq hd
  · exact C15_to_value hW m hq hd h

/-- `to_compact` registers the prefixed unit it introduces, so the hypotheses are stated for the
    registry after that registration (both for the input and for the result) -/
theorem C15_compact_value {R : Registry} {S : String → Prop} (m : Mode) (unit : Option UC)
    {q q' : Qty} {uq ud dq dd : UC} {fq fd : Rat}
    (hW : (Rw.regKeys R q'.units).WFintOn S)
    (hq : Good (Rw.regKeys R q'.units) S q fq uq dq) (hd : Good (Rw.regKeys R q'.units) S q' fd ud dd)
    (h : Rw.toCompact R m q unit = .ok q') :
    dq.beq dd = true ∧ q'.mag * fd = q.mag * fq := by
  rcases C15_compact_shape m unit h with rfl | h
  · exact value_self hq hd
  · exact C15_to_value hW m hq hd h

/-- `ito(dst)` leaves in the object exactly the magnitude and units that `to(dst)` returns -/
theorem C15_inplace (R : Registry) (m : Mode) (q : Qty) (dst : UC) :
    Rw.ito R m q dst = Rw.to R m q dst := by
  unfold Rw.ito Rw.to
  split <;> rfl

/-- `to_reduced_units` leaves no two units it could merge: for any ratio oracle, two distinct units of the result
    have no (non-zero) ratio, in either order -/
theorem C15_reduced_post (ratio : String → String → Option Rat) (u : UC) (hn : u.keys.Nodup) :
    ∀ a ∈ (Rw.reducedUnits ratio u).keys, ∀ b ∈ (Rw.reducedUnits ratio u).keys, a ≠ b →
      ratio a b = none ∨ ratio a b = some 0 :=
  have _ := hn  -- not needed: `del` removes every occurrence of a key
  fun a ha => (Rw.reduceOuter_spec ratio u.keys u).2 a ((Rw.reduceOuter_spec ratio u.keys u).1 a ha) ha

theorem C15_reduced_keys (ratio : String → String → Option Rat) (u : UC) :
    ∀ a ∈ (Rw.reducedUnits ratio u).keys, a ∈ u.keys := (Rw.reduceOuter_spec ratio u.keys u).1

theorem C15_floorLog10 {q : Rat} (h : 0 < q) :
    Rw.pow10 (Rw.floorLog10 q) ≤ q ∧ q < Rw.pow10 (Rw.floorLog10 q + 1) := by
  obtain ⟨h1, h2⟩ := floorLog10_bounds h
  unfold floorLog10
  generalize ((natLog10 q.num.natAbs : Int) - (natLog10 q.den : Int)) = e at *
  simp only []
  split
  · split
    · next h3 => exact absurd h2 (Rat.not_lt.mpr h3)
    · next h3 h4 => exact ⟨h3, Rat.not_le.mp h4⟩
  · next h3 =>
    rw [show e - 1 + 1 = e by omega]
    exact ⟨Rat.le_of_lt h1, Rat.not_le.mp h3⟩

/-- a first-power leading unit: the selected power k is a multiple of 3 with 10^k ≤ |m| < 10^(k+3),
    i.e. |m| / 10^k lies in [1, 1000) -/
theorem C15_compact_range {mag : Rat} (h : mag ≠ 0) :
    Rw.pow10 (Rw.compactPower mag 1) ≤ Rw.absR mag ∧ Rw.absR mag < Rw.pow10 (Rw.compactPower mag 1 + 3)
    ∧ Rw.compactPower mag 1 % 3 = 0 := by
  obtain ⟨h1, h2⟩ := C15_floorLog10 (absR_pos h)
  have hc : compactPower mag 1 = (floorLog10 (absR mag) / 3) * 3 := by
    unfold compactPower
    simp
  rw [hc]
  generalize floorLog10 (absR mag) = L at *
  refine ⟨?_, ?_, by omega⟩
  · exact Rat.le_trans (pow10_mono (by omega)) h1
  · have := pow10_mono (e := L + 1) (f := L / 3 * 3 + 3) (by omega)
    grind

/-- when the table has the selected power, `bisect_left` picks exactly that prefix -/
theorem C15_pick_exact (table : List (Int × String)) (hs : (table.map (·.1)).Pairwise (· < ·))
    {k : Int} {n : String} (h : (k, n) ∈ table) : Rw.pickPrefix table k = n := by
  have h2 := bisect_spec table hs h
  obtain ⟨h1, -⟩ := List.getElem?_eq_some_iff.mp h2
  unfold pickPrefix
  simp only [ge_iff_le, if_neg (Nat.not_le.mpr h1), h2]

theorem C15_table_sorted (R : Registry) : ((Rw.siTable R).map (·.1)).Pairwise (· < ·) := by
  unfold siTable
  refine List.foldlRecOn (motive := fun acc : List (Int × String) => (acc.map (·.1)).Pairwise (· < ·)) _ _
    (b := []) List.Pairwise.nil ?_
  intro acc h kv _
  simp only []
  split
  · exact insertSorted_sorted _ _ _ h
  · split
    · exact insertSorted_sorted _ _ _ h
    · exact h

/-- every entry of the table is the empty prefix or a registered prefix whose scale is exactly that power of ten:
    only decimal prefixes are ever applied -/
theorem C15_table_decimal (R : Registry) : ∀ e ∈ Rw.siTable R,
    e = (0, "") ∨ ∃ kv ∈ R.prefixes, kv.2.name = e.2 ∧ kv.2.value = Rw.pow10 e.1 := by
  unfold siTable
  refine List.foldlRecOn (motive := fun acc : List (Int × String) => ∀ e ∈ acc,
    e = (0, "") ∨ ∃ kv ∈ R.prefixes, kv.2.name = e.2 ∧ kv.2.value = Rw.pow10 e.1) _ _
    (fun _ h => by cases h) ?_
  intro acc h kv hkv
  simp only []
  split
  · intro e he
    exact (mem_insertSorted he).elim Or.inl (h e)
  · split
    · next e' hlog =>
      intro e he
      rcases mem_insertSorted he with rfl | he
      · exact Or.inr ⟨kv, hkv, rfl, (exactLog10_some hlog).symm⟩
      · exact h e he
    · exact h

/-- the destination differs from the prefix-free container by renaming one unit with a prefix of the table -/
theorem C15_compact_rename {R : Registry} (m : Mode) {q : Qty} (unit : Option UC) {base dst : UC}
    (h : Rw.compactTarget R m q unit = .ok (some (base, dst))) :
    ∃ ustr pfx, base.rename ustr (pfx ++ ustr) = some dst ∧
      (pfx = "" ∨ ∃ e, (e, pfx) ∈ Rw.siTable R) := by
  unfold compactTarget at h
  -- seven early exits, then the `rename`
  iterate 7 (split at h; · cases h)
  simp only [] at h
  split at h
  · cases h
  · next dst' hren =>
    obtain ⟨rfl, rfl⟩ := Prod.mk.inj (Option.some.inj (Except.ok.inj h))
    exact ⟨_, _, hren, pickPrefix_mem _ _⟩

/-- zero and unit-free quantities are returned unchanged -/
theorem C15_compact_passthrough {R : Registry} (m : Mode) (q r : Qty) (unit : Option UC)
    (hr : R.toRoot m q = .ok r) (h : r.units = [] ∨ q.mag = 0) :
    Rw.toCompact R m q unit = .ok q := by
  have : (r.units.isEmpty || decide (q.mag = 0)) = true := by
    rcases h with h | h <;> simp [h, UC.isEmpty]
  simp only [Rw.toCompact, Rw.compactTarget, hr, this, if_true]

/-- the three test vectors on the bundled registry, evaluated together: the kernel pays for walking the
    keys of the table once per declaration -/
theorem default_vectors :
    (Rw.toCompact Gen.defaultRegistry {} ⟨12345, [("meter", 1)]⟩).toOption = some ⟨12345 / 1000, [("kilometer", 1)]⟩ ∧
    (Rw.toCompact Gen.defaultRegistry {} ⟨1 / 50000, [("second", -1)]⟩).toOption = some ⟨20, [("megasecond", -1)]⟩ ∧
    (Rw.toReduced Gen.defaultRegistry {} ⟨3, [("foot", 1), ("inch", 1), ("second", -1)]⟩).toOption
      = some ⟨36, [("inch", 2), ("second", -1)]⟩ := by decide +kernel

example : (Rw.toCompact Gen.defaultRegistry {} ⟨12345, [("meter", 1)]⟩).toOption = some ⟨12345 / 1000, [("kilometer", 1)]⟩ :=
  default_vectors.1

example : (Rw.toCompact Gen.defaultRegistry {} ⟨1 / 50000, [("second", -1)]⟩).toOption = some ⟨20, [("megasecond", -1)]⟩ :=
  default_vectors.2.1

example : (Rw.toReduced Gen.defaultRegistry {} ⟨3, [("foot", 1), ("inch", 1), ("second", -1)]⟩).toOption
    = some ⟨36, [("inch", 2), ("second", -1)]⟩ := default_vectors.2.2

example : Rw.compactPower 999 1 = 0 ∧ Rw.compactPower 1000 1 = 3 ∧ Rw.compactPower (1 / 1000) 1 = -3
    ∧ Rw.compactPower (999 / 1000000) 1 = -6 ∧ Rw.compactPower 5000000 2 = 3 := by decide +kernel

end Pint.Props.C15
