/-
  C02 — the exactness hypothesis holds for the bundled registry on every canonical name whose
  expansion stays in exact rational arithmetic with integer exponents (`Gen.exactChunk0..5`, each
  closed under references; one kernel evaluation over all of them).
-/
import PintModel.Props.C02

namespace Pint.Props.C02
open Pint Pint.UC

theorem wfintOn_congr {R : Registry} {S T : String → Prop} (h : ∀ k, S k ↔ T k) (hS : R.WFintOn S) :
    R.WFintOn T := fun k hk key d hr hb =>
  let ⟨h1, h2, h3⟩ := hS k ((h k).mpr hk) key d hr hb
  ⟨h1, fun k' hk' => (h k').mp (h2 k' hk'), h3⟩

/-- every exact canonical name of the bundled registry -/
def ExactName (k : String) : Prop :=
  k ∈ Gen.exactChunk0 ∨ k ∈ Gen.exactChunk1 ∨ k ∈ Gen.exactChunk2 ∨ k ∈ Gen.exactChunk3 ∨ k ∈ Gen.exactChunk4 ∨ k ∈ Gen.exactChunk5

theorem C02_default_wfint_all : Gen.defaultRegistry.WFintOn ExactName :=
  wfintOn_congr (fun k => by simp only [ExactName, List.mem_append])
    (wfintOn_of_B (L := Gen.exactChunk0 ++ (Gen.exactChunk1 ++ (Gen.exactChunk2 ++ (Gen.exactChunk3 ++
      (Gen.exactChunk4 ++ Gen.exactChunk5))))) (by decide +kernel))

end Pint.Props.C02
