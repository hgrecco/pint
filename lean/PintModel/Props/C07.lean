/-
  C07 — string expressions evaluate like ordinary arithmetic on quantities.

  Model: `Eval.build` (`_build_eval_tree`, with the F3 repair), `Eval.evaluate`
  (`EvalTreeNode.evaluate`), tables `Gen.opPriority`, `Gen.binaryOps`, `Gen.unaryOps`
  regenerated from pint/pint_eval.py on every run.
-/
import PintModel.Model.EvalTree
import PintModel.Gen.EvalTables
import PintModel.Proofs.EvalTreeLemmas

namespace Pint.Props.C07
open Pint Pint.Eval

/-- Python's precedence: `**` binds tighter than unary minus, which binds tighter than
    `* / // %` and juxtaposition (all equal), which bind tighter than `+ -` (equal) -/
def PrioOK (p : Prio) : Bool :=
  match prioOf p "**", prioOf p "^", prioOf p "unary", prioOf p "*", prioOf p "", prioOf p "/",
        prioOf p "//", prioOf p "%", prioOf p "+", prioOf p "-" with
  | some pw, some cr, some un, some mu, some im, some dv, some fd, some md, some ad, some sb =>
    pw == cr && decide (pw > un) && decide (un > mu) && mu == im && mu == dv && mu == fd && mu == md &&
    decide (mu > ad) && ad == sb
  | _, _, _, _, _, _, _, _, _, _ => false

/-- the generated priority table orders the operators like Python -/
theorem C07_prio_ok : PrioOK Gen.opPriority = true := by decide +kernel

/-- the operator tables map every operator to plain arithmetic (juxtaposition ≡ `*`), and
    nothing else is in them -/
theorem C07_ops_table :
    Gen.binaryOps = [("+/-", "_ufloat"), ("**", "_power"), ("*", "operator.mul"), ("", "operator.mul"),
      ("/", "operator.truediv"), ("+", "operator.add"), ("-", "operator.sub"), ("%", "operator.mod"),
      ("//", "operator.floordiv")] ∧
    Gen.unaryOps = [("+", "lambda x: x"), ("-", "lambda x: x * -1")] := ⟨rfl, rfl⟩

/-- evaluation is the fold of the tree with the three tables: its only interaction with the
    world is through `defineOp`, `binOp`, `unOp` (parametricity) -/
theorem C07_eval_leaf {α ε : Type} (d : Token → Except ε α) (b u) (ms : String → ε) (t : Token) :
    evaluate d b u ms (.leaf t) = d t := rfl

theorem C07_eval_binary {α ε : Type} (d : Token → Except ε α) (b u) (ms : String → ε)
    (l r : Tree) (op : Option String) (f : α → α → Except ε α) (x y : α)
    (hf : b (op.getD "") = some f)
    (hl : evaluate d b u ms l = .ok x) (hr : evaluate d b u ms r = .ok y) :
    evaluate d b u ms (.binary l op r) = f x y := by
  simp [evaluate, hf, hl, hr]

theorem C07_eval_unary {α ε : Type} (d : Token → Except ε α) (b u) (ms : String → ε)
    (a : Tree) (op : String) (f : α → Except ε α) (x : α)
    (hf : u op = some f) (ha : evaluate d b u ms a = .ok x) :
    evaluate d b u ms (.unary op a) = f x := by
  simp [evaluate, hf, ha]

/-- an operator that is not in the tables never evaluates -/
theorem C07_eval_missing {α ε : Type} (d : Token → Except ε α) (b u) (ms : String → ε)
    (l r : Tree) (op : Option String) (h : b (op.getD "") = none) :
    evaluate d b u ms (.binary l op r) = .error (ms (op.getD "")) := by
  simp [evaluate, h]

/-- a closing parenthesis with nothing open never yields a tree -/
theorem C07_unopened (p : Prio) (toks : Array Token) (fuel index depth : Nat) (res : Option Tree)
    (h : toks[index]? = some ⟨.op, ")"⟩) :
    build p toks (fuel + 1) index depth "<none>" res = .error .unopened := by
  unfold build
  simp [h]

/-- inside a parenthesis the end of input never yields a tree -/
theorem C07_unclosed_at_end (p : Prio) (toks : Array Token) (fuel index depth : Nat) (res : Option Tree)
    (tok : Token) (h : toks[index]? = some tok) (hk : tok.kind = .endmarker) :
    build p toks (fuel + 1) index depth "(" res = .error .unclosed := by
  unfold build
  simp [h, hk]

/-- an operator token that is neither a parenthesis nor in the priority table never yields a tree
    (the pinned code skipped it: finding F51) -/
theorem C07_unknown_operator (p : Prio) (toks : Array Token) (fuel index depth : Nat) (prev : String) (res : Option Tree)
    (tok : Token) (h : toks[index]? = some tok) (hk : tok.kind = .op) (h1 : tok.text ≠ ")") (h2 : tok.text ≠ "(")
    (hp : prioOf p tok.text = none) :
    build p toks (fuel + 1) index depth prev res = .error .unknownOp := by
  unfold build
  simp [h, hk, h1, h2, hp]

/-- a string literal never yields a tree -/
theorem C07_string_literal (p : Prio) (toks : Array Token) (fuel index depth : Nat) (prev : String) (res : Option Tree)
    (tok : Token) (h : toks[index]? = some tok) (hk : tok.kind = .string) :
    build p toks (fuel + 1) index depth prev res = .error .unexpectedString := by
  unfold build
  simp [h, hk]

/-- the regenerated priority table is well formed (no "<none>" entry, non-negative priorities, an implicit-product entry) -/
theorem C07_prio_wf : PrioWF Gen.opPriority := prioWF_of_all (by decide) (by decide) (by decide)

/-- for the bundled priority table, the leaves of the parsed tree, read in order, are exactly the
    operand tokens (numbers and names) of the input up to its end marker — no operand is dropped, duplicated
    or reordered, parentheses included -/
theorem C07_leaves {toks : List Token} {t : Tree} (h : buildEvalTree Gen.opPriority toks = .ok t) :
    t.leaves = operands (beforeEnd toks) := buildEvalTree_leaves C07_prio_wf h

/-- … and its operators, read in order, are exactly the operator tokens of the input -/
theorem C07_ops {toks : List Token} {t : Tree} (h : buildEvalTree Gen.opPriority toks = .ok t) :
    t.ops = operators Gen.opPriority (beforeEnd toks) := buildEvalTree_ops C07_prio_wf h

/-- for any priority table: every operator of the tree is an operator token of the input, every leaf an operand token -/
theorem C07_nothing_invented {prio : Prio} {toks : List Token} {t : Tree} (h : buildEvalTree prio toks = .ok t) :
    (∀ s ∈ t.ops, ∃ tok ∈ toks, tok.kind = .op ∧ tok.text = s) ∧
    (∀ tok ∈ t.leaves, tok ∈ toks ∧ (tok.kind = .number ∨ tok.kind = .name)) := by
  obtain ⟨j, hj⟩ := buildEvalTree_items_prefix h
  rw [Tree.ops_eq_items, Tree.leaves_eq_items, hj, ← operators_eq_items, ← operands_eq_items]
  constructor
  · intro s hs
    simp only [operators, List.mem_map, List.mem_filter] at hs
    obtain ⟨tok, ⟨hmem, hop⟩, rfl⟩ := hs
    refine ⟨tok, List.mem_of_mem_take hmem, ?_, rfl⟩
    simp [isOperator] at hop
    exact hop.1.1.1
  · intro tok hs
    simp only [operands, List.mem_filter] at hs
    exact ⟨List.mem_of_mem_take hs.1, by simpa [isOperand] using hs.2⟩

private def T (k : TokKind) (s : String) : Token := ⟨k, s⟩

/-- `a / b (c)` groups to the left (F3 repair): ((a / b) c) -/
example : (buildEvalTree Gen.opPriority
    [T .name "a", T .op "/", T .name "b", T .op "(", T .name "c", T .op ")", T .other "", T .endmarker ""]).toOption.map Tree.toStr
    = some "((a / b) c)" := by decide +kernel

/-- `2 ** -x ** 2` : `**` is right associative and tighter than unary minus -/
example : (buildEvalTree Gen.opPriority
    [T .number "2", T .op "**", T .op "-", T .name "x", T .op "**", T .number "2", T .other "", T .endmarker ""]).toOption.map Tree.toStr
    = some "(2 ** (- (x ** 2)))" := by decide +kernel

example : (buildEvalTree Gen.opPriority
    [T .op "(", T .name "a", T .other "", T .endmarker ""]).toOption = none := by decide +kernel

/-- `6 @ 2`, `6 <`, `3 'abc' m` are refused -/
example : (buildEvalTree Gen.opPriority [T .number "6", T .op "@", T .number "2", T .other "", T .endmarker ""]).toOption = none
    ∧ (buildEvalTree Gen.opPriority [T .number "6", T .op "<", T .other "", T .endmarker ""]).toOption = none
    ∧ (buildEvalTree Gen.opPriority [T .number "3", T .string "'abc'", T .name "m", T .other "", T .endmarker ""]).toOption = none := by
  decide +kernel

/-- `8 ± 4 ** 2` (what `(8 ± 4) ** 2` is rewritten to): the plus-minus operator binds tighter than `**`
    (F40 repair; the pinned code read it as 8 ± (4 ** 2)) -/
example : (buildEvalTree Gen.opPriority
    [T .number "8", T .op "+/-", T .number "4", T .op "**", T .number "2", T .other "", T .endmarker ""]).toOption.map Tree.toStr
    = some "((8 +/- 4) ** 2)" := by decide +kernel

/-- `2 ** 8 ± 4` : the uncertainty still belongs to the exponent's operand -/
example : (buildEvalTree Gen.opPriority
    [T .number "2", T .op "**", T .number "8", T .op "+/-", T .number "4", T .other "", T .endmarker ""]).toOption.map Tree.toStr
    = some "(2 ** (8 +/- 4))" := by decide +kernel

end Pint.Props.C07
