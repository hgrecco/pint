/-
  C17 — wraps/check decorators hand over correct magnitudes and enforce dimensions.

  Model: `PintModel/Model/Wraps.lean` (`classify` = `_parse_wrap_args`, `applyDefaults`, `pack`,
  `converter` with its three passes, `replaceUnits`, `wrapperCall`, `checkCall`).  The unit
  conversion `conv` and the dimensionality `dimOf` are arbitrary functions here: the statements
  are about the argument bookkeeping; C02 says what `conv` returns.
-/
import PintModel.Model.Wraps
import PintModel.Proofs.WrapsLemmas

namespace Pint.Props.C17
open Pint Pint.Wraps

variable (conv : Rat → UC → UC → Except Err Rat)

/-- `None` : the value is handed over untouched -/
theorem C17_none (strict : Bool) (bn : List (String × Val)) (v : Val) :
    convertOne conv strict bn .skip v = .ok v := rfl

/-- a declared unit and a quantity: the magnitude converted to that unit, or the conversion's error
    (`DimensionalityError` for incompatible units) -/
theorem C17_unit_quantity (strict : Bool) (bn : List (String × Val)) (u su : UC) (m : Rat) :
    convertOne conv strict bn (.unit u) (.q m su) =
      (match conv m su u with | .ok x => .ok (.num x) | .error e => .error e) := rfl

/-- a declared unit and a bare number: refused in strict mode, passed through unchanged otherwise -/
theorem C17_strict (bn : List (String × Val)) (u : UC) (x : Rat) :
    convertOne conv true bn (.unit u) (.num x) = .error .value ∧
    convertOne conv false bn (.unit u) (.num x) = .ok (.num x) := ⟨rfl, rfl⟩

/-- `"=A"` first occurrence: the magnitude as given, and the value is bound to the name -/
theorem C17_definition (strict : Bool) (bn : List (String × Val)) (k : String) (m : Rat) (u : UC) :
    convertOne conv strict bn (.defn k) (.q m u) = .ok (.num m) := rfl

/-- a dependent reference: converted to the units derived from the bound values -/
theorem C17_dependent (strict : Bool) (bn : List (String × Val)) (u dst : UC) (v : Val)
    (h : replaceUnits u bn = .ok dst) :
    convertOne conv strict bn (.dep u) v =
      (match conv (magOf v) (unitsOf v) dst with | .ok x => .ok (.num x) | .error e => .error e) := by
  simp only [convertOne]; rw [h]; rfl

/-- the derived units of `"=A**2"` and `"=A/B"` -/
example : (replaceUnits [("A", 2)] [("A", .q 3 [("meter", 1)])]).toOption = some [("meter", 2)] := by decide +kernel
example : (replaceUnits [("A", 1), ("B", -1)] [("A", .q 3 [("meter", 1)]), ("B", .q 2 [("second", 1)])]).toOption
    = some [("meter", 1), ("second", -1)] := by decide +kernel

theorem C17_classify_none {specs : List Spec} {i : Nat} (h : specs[i]? = some .none) :
    (classify specs)[i]? = some .skip := by
  obtain ⟨d, hd⟩ := classifyGo_getElem? h []
  rw [classify, hd]; rfl

theorem C17_classify_unit {specs : List Spec} {i : Nat} {u : UC} (h : specs[i]? = some (.unit u)) :
    (classify specs)[i]? = some (.unit u) := by
  obtain ⟨d, hd⟩ := classifyGo_getElem? h []
  rw [classify, hd]; rfl

theorem C17_classify_ref {specs : List Spec} {i : Nat} {u : UC} (h : specs[i]? = some (.ref u)) :
    (∃ k, u = [(k, 1)] ∧ (classify specs)[i]? = some (.defn k)) ∨ (classify specs)[i]? = some (.dep u) := by
  obtain ⟨d, hd⟩ := classifyGo_getElem? h []
  rw [classify, hd]
  simp only [classifyGo]
  split
  · rename_i k v
    split
    · rename_i hc
      exact .inl ⟨k, by rw [hc.1], rfl⟩
    · exact .inr rfl
  · exact .inr rfl

example : classify [.ref [("A", 1)], .none, .ref [("A", 1)], .ref [("A", 1), ("B", 1)], .unit [("cm", 1)], .ref [("B", 1)]]
    = [.defn "A", .skip, .dep [("A", 1)], .dep [("A", 1), ("B", 1)], .unit [("cm", 1)], .defn "B"] := by decide

/-- every parameter's value — positional, keyword or default — sits at the parameter's index -/
theorem C17_pack {sig : Sig} {args values : List Val} {kw : List (String × Val)}
    (h : pack sig args kw = .ok values) :
    values.take args.length = args ∧
    ∀ (j : Nat) p, (sig.drop args.length)[j]? = some p → values[args.length + j]? = kwGet kw p.name := by
  obtain ⟨extra, he, rfl⟩ := pack_ok h
  refine ⟨by simp, fun j p hp => ?_⟩
  rw [List.getElem?_append_right (by omega)]
  simpa using (packGo_ok he).2 j p hp

/-- a call that returns: every declared position received `convertOne` of its tag and value, and the
    positional values come back in place -/
theorem C17_args {tags : List Tag} {sig : Sig} {strict : Bool} {args vals : List Val}
    {kw kw' bn : List (String × Val)}
    (h : converter conv tags sig strict args kw = .ok (vals, kw', bn)) :
    ∃ values, pack sig args kw = .ok values ∧ bn = namedValues tags values ∧
      vals = (convertAll conv strict bn tags values).take args.length ∧
      (∀ (i : Nat) t v, tags[i]? = some t → values[i]? = some v →
        ∃ r, convertOne conv strict bn t v = .ok r ∧ (convertAll conv strict bn tags values)[i]? = some r) := by
  cases hp : pack sig args kw with
  | error e => simp [converter, hp] at h
  | ok values =>
    obtain ⟨e, he, _⟩ | ⟨hall, hok⟩ := converter_of_pack conv (tags := tags) (strict := strict) hp
    · rw [he] at h; cases h
    · rw [hok] at h; cases h
      refine ⟨values, rfl, rfl, rfl, fun i t v ht hv => ?_⟩
      obtain ⟨r, hr⟩ := hall i t v ht hv
      exact ⟨r, hr, by rw [convertAll_getElem?, ht, hv]; simp [hr]⟩

/-- … and a keyword parameter gets the converted value of its position -/
theorem C17_kwargs {tags : List Tag} {sig : Sig} {strict : Bool} {args vals values : List Val}
    {kw kw' bn : List (String × Val)} (hn : (sig.map (·.name)).Nodup)
    (h : converter conv tags sig strict args kw = .ok (vals, kw', bn))
    (hp : pack sig args kw = .ok values) {j : Nat} {p : Param} (hj : (sig.drop args.length)[j]? = some p) :
    kwGet kw' p.name = (convertAll conv strict bn tags values)[args.length + j]? := by
  obtain ⟨e, he, _⟩ | ⟨_, hok⟩ := converter_of_pack conv (tags := tags) (strict := strict) hp
  · rw [he] at h; cases h
  rw [hok] at h; cases h
  have hlen := pack_length' hp
  have hol : (convertAll conv strict (namedValues tags values) tags values).length = values.length :=
    convertAll_length' conv
  rw [kwGet_foldl_zip kw (by rw [List.map_drop]; exact hn.sublist (List.drop_sublist _ _))
    (by simp only [List.length_map, List.length_drop] at *; omega)
    (by rw [List.getElem?_map, hj]; rfl), List.getElem?_drop]

/-- a call that raises: a `KeyError` of a missing argument, or the error of some position's conversion
    (`DimensionalityError` for an incompatible argument, `ValueError` for a bare number in strict mode) -/
theorem C17_errors {tags : List Tag} {sig : Sig} {strict : Bool} {args : List Val}
    {kw : List (String × Val)} {e : Err}
    (h : converter conv tags sig strict args kw = .error e) :
    pack sig args kw = .error e ∨
    ∃ values, pack sig args kw = .ok values ∧
      ∃ (i : Nat) (t : Tag) (v : Val), tags[i]? = some t ∧ values[i]? = some v ∧
        convertOne conv strict (namedValues tags values) t v = .error e := by
  cases hp : pack sig args kw with
  | error e' => simp [converter, hp] at h; exact .inl (by rw [h])
  | ok values =>
    obtain ⟨e', he, hpos⟩ | ⟨_, hok⟩ := converter_of_pack conv (tags := tags) (strict := strict) hp
    · rw [he] at h; cases h
      exact .inr ⟨values, rfl, hpos⟩
    · rw [hok] at h; cases h

/-- … and an unacceptable argument always makes the call raise -/
theorem C17_refuses {tags : List Tag} {sig : Sig} {strict : Bool} {args values : List Val}
    {kw : List (String × Val)} {i : Nat} {t : Tag} {v : Val} {e : Err}
    (hp : pack sig args kw = .ok values) (ht : tags[i]? = some t) (hv : values[i]? = some v)
    (he : convertOne conv strict (namedValues tags values) t v = .error e) :
    ∃ e', converter conv tags sig strict args kw = .error e' := by
  obtain ⟨e', he', _⟩ | ⟨hall, _⟩ := converter_of_pack conv (tags := tags) (strict := strict) hp
  · exact ⟨e', he'⟩
  · obtain ⟨r, hr⟩ := hall i t v ht hv
    rw [hr] at he; cases he

/-- a mismatch between declared and actual parameter count is rejected at decoration time -/
theorem C17_count (specs : List Spec) (sig : Sig) (h : specs.length ≠ sig.length) :
    decorate specs sig = .error .type := by
  simp [decorate, h]

theorem C17_count_call (specs : List Spec) (ret : Ret) (strict : Bool) (sig : Sig) (args : List Val)
    (kw : List (String × Val)) (results : List Rat) (h : specs.length ≠ sig.length) :
    wrapperCall conv specs ret strict sig args kw results = .error .type := by
  simp [wrapperCall, decorate, h]

theorem C17_ret (bn : List (String × Val)) (res : Rat) (u : UC) :
    wrapOne .none bn res = .ok (.num res) ∧ wrapOne (.unit u) bn res = .ok (.q res u) ∧
    (∀ d, replaceUnits u bn = .ok d → wrapOne (.ref u) bn res = .ok (.q res d)) := by
  refine ⟨rfl, rfl, ?_⟩
  intro d h; simp [wrapOne, h]

theorem C17_check_count {dimOf : Val → Except Err UC} {dims : List (Option UC)} {sig : Sig} {args : List Val}
    {kw : List (String × Val)} (h : dims.length ≠ sig.length) : checkCall dimOf dims sig args kw = .error .type := by
  simp [checkCall, h]

/-- `check` raises `DimensionalityError` exactly when an argument's dimensionality differs from the declared one -/
theorem C17_check {dimOf : Val → Except Err UC} {dims : List (Option UC)} {sig : Sig} {args values : List Val}
    {kw : List (String × Val)} (hl : dims.length = sig.length)
    (hp : pack sig args (applyDefaults sig args.length kw) = .ok values)
    (hd : ∀ v ∈ values, ∃ d, dimOf v = .ok d) :
    checkCall dimOf dims sig args kw = .error .dimensionality ↔
      ∃ (i : Nat) (d : UC) (v : Val) (dv : UC), dims[i]? = some (some d) ∧ values[i]? = some v ∧ dimOf v = .ok dv ∧ dv.beq d = false := by
  show _ ↔ Mismatch dimOf dims values
  simp only [checkCall, hl, ne_eq, not_true_eq_false, if_false, hp]
  rcases checkGo_spec (dims := dims) hd with ⟨h1, h2⟩ | ⟨h1, h2⟩
  · rw [h1]
    refine ⟨fun h => ?_, fun h => absurd h h2⟩
    dsimp only at h
    split at h <;> cases h
  · rw [h1]
    exact ⟨fun _ => h2, fun _ => rfl⟩

example :
    (wrapperCall (fun x s d => if s == [("meter", 1)] && d == [("cm", 1)] then .ok (x * 100) else if s == d then .ok x else .error .dimensionality)
      [.unit [("cm", 1)], .none, .ref [("A", 1)]] (.single (.ref [("A", 2)])) true
      [⟨"x", none⟩, ⟨"y", some (.num 5)⟩, ⟨"z", none⟩]
      [.q 2 [("meter", 1)]] [("z", .q 3 [("second", 1)])] [7]).toOption
    = some ([.num 200], [("z", .num 3), ("y", .num 5)], [.q 7 [("second", 2)]]) := by decide +kernel

end Pint.Props.C17
