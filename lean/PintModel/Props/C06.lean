/-
  C06 — offset and logarithmic units convert by their defining maps and refuse ambiguity.

  Model: `Conv.offset` with `toReference` / `fromReference` (`OffsetConverter`), `deltaOf`
  (automatic `delta_` units), `validateAndExtract`, `convertNM` (`_convert` of the
  non-multiplicative registry), `okForMuldiv`, `addSub`, `mulDiv`, `pow` of `Model/Quantity`.
  Logarithmic converters are outside the exact model (floating point): compared numerically.
-/
import PintModel.Model.Quantity

namespace Pint.Props.C06
open Pint Pint.Registry

/-- the affine maps of an offset unit are mutually inverse -/
theorem C06_offset_inverse (s o x : Rat) (hs : s ≠ 0) :
    (match toReference (.offset s o) x with
      | .ok y => fromReference (.offset s o) y
      | .error e => .error e) = .ok x ∧
    (match fromReference (.offset s o) x with
      | .ok y => toReference (.offset s o) y
      | .error e => .error e) = .ok x := by
  constructor
  · simp only [toReference, fromReference, hs, if_false]
    congr 1
    rw [Rat.add_sub_cancel, Rat.div_def, Rat.mul_assoc, Rat.mul_inv_cancel _ hs, Rat.mul_one]
  · simp only [toReference, fromReference, hs, if_false]
    congr 1
    rw [Rat.div_def, Rat.mul_assoc, Rat.inv_mul_cancel _ hs, Rat.mul_one, Rat.sub_add_cancel]

/-- delta units convert by scale only: the generated `delta_` unit has the same scale, no
    offset, and the same reference -/
theorem C06_delta_scale_only (d dd : UnitDef) (h : deltaOf d = some dd) :
    ∃ s o, d.conv = .offset s o ∧ o ≠ 0 ∧ dd.conv = .scale s ∧ dd.ref = d.ref ∧
      dd.name = "delta_" ++ d.name ∧ dd.isMult = true := by
  unfold deltaOf at h
  cases hc : d.conv with
  | offset s o =>
    simp only [hc] at h
    by_cases ho : (o == 0) = true
    · simp [ho] at h
    · simp only [ho, Bool.false_eq_true, if_false, Option.some.injEq] at h
      subst h
      refine ⟨s, o, rfl, ?_, rfl, rfl, rfl, rfl⟩
      intro e; apply ho; simp [e]
  | scale s => simp [hc] at h
  | log a b c => simp [hc] at h
  | irrational => simp [hc] at h

theorem C06_refuse_two_offset (R : Registry) (auto : Bool) (u : UC) (p q : String × Rat) (l : List (String × Rat))
    (h : R.nonMultItems u = .ok (p :: q :: l)) :
    R.validateAndExtract auto u = .error .value := by
  unfold validateAndExtract; rw [h]

theorem C06_refuse_higher_order (R : Registry) (auto : Bool) (u : UC) (k : String) (e : Rat)
    (h : R.nonMultItems u = .ok [(k, e)]) (he : e ≠ 1) :
    R.validateAndExtract auto u = .error .value := by
  unfold validateAndExtract; rw [h]; simp [he]

theorem C06_refuse_multiplicative_context (R : Registry) (u : UC) (k : String)
    (h : R.nonMultItems u = .ok [(k, 1)]) (hl : u.length > 1) :
    R.validateAndExtract false u = .error .value := by
  unfold validateAndExtract; rw [h]; simp [hl]

theorem C06_accept_single (R : Registry) (auto : Bool) (u : UC) (k : String)
    (h : R.nonMultItems u = .ok [(k, 1)]) (hl : u.length ≤ 1 ∨ auto = true) :
    R.validateAndExtract auto u = .ok (some k) := by
  unfold validateAndExtract; rw [h]
  rcases hl with hl | hl
  · have : ¬ u.length > 1 := by omega
    simp [this]
  · simp [hl]

/-- an ambiguous source or destination makes the conversion a `DimensionalityError` -/
theorem C06_convert_refuses (R : Registry) (auto : Bool) (x : Rat) (src dst : UC)
    (h : R.validateAndExtract auto src = .error .value ∨
         (∃ so, R.validateAndExtract auto src = .ok so ∧ R.validateAndExtract auto dst = .error .value)) :
    R.convertNM auto x src dst = .error .dimensionality := by
  unfold convertNM
  rcases h with h | ⟨so, h1, h2⟩
  · rw [h]
  · rw [h1, h2]

/-- products and quotients with an offset unit are refused unless `autoconvert` is on: a non-empty
    container with one offset unit fails `_ok_for_muldiv` -/
theorem C06_muldiv_refused (m : Mode) {u : UC} (h : m.autoconvert = false) (hne : u ≠ []) :
    okForMuldiv m u 1 = false := by
  unfold okForMuldiv
  cases u with
  | nil => exact absurd rfl hne
  | cons p t =>
    cases t with
    | nil => simp [h]
    | cons q t' => simp

theorem C06_mul_offset_refused (R : Registry) (m : Mode) (op : MulOp) (a : Qty) (b : Operand)
    (h : m.autoconvert = false) (hn : (R.nonMultUnits a.units).length = 1) :
    R.mulDiv m op a b = .error .offsetCalc := by
  have hok : okForMuldiv m a.units 1 = false :=
    C06_muldiv_refused m h fun e => by rw [e] at hn; simp [nonMultUnits, UC.keys] at hn
  unfold mulDiv
  cases b with
  | num x => simp [hn, hok]
  | q b => simp [hn, hok]

/-- more than one offset unit: refused in every mode -/
theorem C06_mul_two_offsets_refused (R : Registry) (m : Mode) (op : MulOp) (a : Qty) (b : Operand)
    (hn : (R.nonMultUnits a.units).length > 1) :
    R.mulDiv m op a b = .error .offsetCalc := by
  have hok : okForMuldiv m a.units (R.nonMultUnits a.units).length = false := by
    unfold okForMuldiv; simp [hn]
  unfold mulDiv
  cases b with
  | num x => simp [hok]
  | q b => simp [hok]

/-- powers of an offset quantity (exponent ≠ 0, 1) are refused unless `autoconvert` is on -/
theorem C06_pow_refused (R : Registry) (m : Mode) (a : Qty) (e : Rat)
    (h : m.autoconvert = false) (hm : R.isMultQ a = false) (h0 : e ≠ 0) (h1 : e ≠ 1) :
    R.pow m a e = .error .offsetCalc := by
  unfold Registry.pow; simp [h0, h1, hm, h]

/-- offset + offset is ambiguous: `OffsetUnitCalculusError` -/
theorem C06_offset_plus_offset (R : Registry) (m : Mode) (a b : Qty) (s0 o0 : String) (da db : UC)
    (ha : R.getDimensionality a.units = .ok da) (hb : R.getDimensionality b.units = .ok db)
    (he : da.beq db = true)
    (hs : R.nonMultUnits a.units = [s0]) (ho : R.nonMultUnits b.units = [o0])
    (hd1 : R.hasCompatibleDelta b.units s0 = false) (hd2 : R.hasCompatibleDelta a.units o0 = false) :
    R.addSub m .add a (.q b) = .error .offsetCalc := by
  unfold addSub
  simp [ha, hb, he, hs, ho, hd1, hd2]

/-- offset − offset is a delta: the result carries the `delta_` unit of the left operand -/
theorem C06_offset_minus_offset (R : Registry) (m : Mode) (a b c : Qty) (s0 : String) (da db : UC)
    (ha : R.getDimensionality a.units = .ok da) (hb : R.getDimensionality b.units = .ok db)
    (he : da.beq db = true)
    (hs : R.nonMultUnits a.units = [s0]) (h1 : a.units.get s0 = 1)
    (hd1 : R.hasCompatibleDelta b.units s0 = false)
    (hc : R.addSub m .sub a (.q b) = .ok c) :
    a.units.rename s0 ("delta_" ++ s0) = some c.units := by
  unfold addSub at hc
  simp only [ha, hb, he, hs, Bool.not_true, Bool.false_eq_true, if_false, List.isEmpty_cons,
    Bool.false_and, h1, hd1, beq_self_eq_true, Bool.not_false, Bool.and_self, if_true] at hc
  split at hc
  · next v u hv hu => cases hc; exact hu
  · cases hc
  · cases hc

/-- F58: as for true division, without autoconvert an operand on an offset scale is refused by `//`, `%` and `divmod`
    (operands of one dimensionality; operands of different dimensionality meet the DimensionalityError first, next
    theorem) -/
theorem C06_floordiv_refuses_offset (R : Registry) (m : Mode) (a : Qty) (b : Operand)
    (h : R.operandsMult a b = false) (hd : R.dimsDiffer a b = false) (hm : m.autoconvert = false) :
    R.floordiv m a b = .error .offsetCalc ∧ R.mod m a b = .error .offsetCalc ∧
      R.divmod m a b = .error .offsetCalc := by
  have ho : R.offsetFree m a b = .error .offsetCalc := by
    unfold Registry.offsetFree
    rw [if_neg (by rw [h]; decide), if_neg (by rw [hd]; decide), hm, if_pos (by decide)]
  simp only [Registry.floordiv, Registry.mod, Registry.divmod, ho, and_self]

/-- operands of different dimensionality with one on an offset scale: DimensionalityError, in both registry modes (F82) -/
theorem C06_floordiv_refuses_other_dimension (R : Registry) (m : Mode) (a : Qty) (b : Operand)
    (h : R.operandsMult a b = false) (hd : R.dimsDiffer a b = true) :
    R.floordiv m a b = .error .dimensionality ∧ R.mod m a b = .error .dimensionality ∧
      R.divmod m a b = .error .dimensionality := by
  have ho : R.offsetFree m a b = .error .dimensionality := by
    unfold Registry.offsetFree
    rw [if_neg (by rw [h]; decide), if_pos hd]
  simp only [Registry.floordiv, Registry.mod, Registry.divmod, ho, and_self]

/-- with multiplicative operands the three operators are unchanged by the guard -/
theorem C06_offsetFree_mult (R : Registry) (m : Mode) (a : Qty) (b : Operand)
    (h : R.operandsMult a b = true) :
    R.offsetFree m a b = .ok (a, b) := by
  unfold Registry.offsetFree
  rw [if_pos h]

/-- in autoconvert mode both operands are taken to root units first: the result does not depend on the
    scale the temperatures are written in -/
theorem C06_floordiv_autoconvert (R : Registry) (m : Mode) (a b a' b' : Qty)
    (h : R.operandsMult a (.q b) = false) (hd : R.dimsDiffer a (.q b) = false) (hm : m.autoconvert = true)
    (ha : R.toRoot m a = .ok a') (hb : R.toRoot m b = .ok b') :
    R.offsetFree m a (.q b) = .ok (a', .q b') := by
  unfold Registry.offsetFree
  rw [if_neg (by rw [h]; decide), if_neg (by rw [hd]; decide), hm, if_neg (by decide), ha]
  simp only [hb]

end Pint.Props.C06
