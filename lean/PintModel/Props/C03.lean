/-
  C03 — arithmetic results do not depend on the units used to express the operands.

  Model: `PintModel/Model/Quantity.lean` (`_add_sub`, `_mul_div`, floor division, modulo,
  `compare`, …).  The in-place twins `_iadd_sub` / `_imul_div` compute the same function of
  (magnitude, units): the model has one definition for both; their agreement on the real
  code is checked by the correspondence (object-array magnitudes).
-/
import PintModel.Model.Quantity
import PintModel.Proofs.QtyLemmas

namespace Pint.Props.C03
open Pint Pint.Registry

/-- adding or subtracting quantities of different dimensionality raises `DimensionalityError` -/
theorem C03_add_dim_error (R : Registry) (m : Mode) (op : AddOp) (a b : Qty) {da db : UC}
    (ha : R.getDimensionality a.units = .ok da) (hb : R.getDimensionality b.units = .ok db)
    (hne : da.beq db = false) :
    R.addSub m op a (.q b) = .error .dimensionality := by
  unfold addSub; simp [ha, hb, hne]

/-- ordering quantities of different dimensionality raises `DimensionalityError` -/
theorem C03_compare_dim_error (R : Registry) (m : Mode) (op : CmpOp) (a b : Qty) {da db : UC}
    (hu : a.units.beq b.units = false)
    (ha : R.getDimensionality a.units = .ok da) (hb : R.getDimensionality b.units = .ok db)
    (hne : da.beq db = false) :
    R.compare m op a (.q b) = .error .dimensionality :=
  compare_dim_error' m op ha hb hne (hu ▸ Bool.false_ne_true)

/-- a bare number is accepted as an operand of + and - only when the quantity is
    dimensionless or the number is zero -/
theorem C03_bare_number (R : Registry) (m : Mode) (op : AddOp) (a : Qty) (x : Rat) :
    (x = 0 → R.addSub m op a (.num x) = .ok ⟨op.app a.mag x, a.units⟩) ∧
    (x ≠ 0 → R.dimensionless m a = .ok false → R.addSub m op a (.num x) = .error .dimensionality) ∧
    (x ≠ 0 → R.dimensionless m a = .ok true → ∀ v, R.convertTo m a [] = .ok v →
        R.addSub m op a (.num x) = .ok ⟨op.app v x, []⟩) := by
  refine ⟨?_, ?_, ?_⟩
  · intro hx; unfold addSub; simp [hx]
  · intro hx hd; unfold addSub; simp [hx, hd]
  · intro hx hd v hv; unfold addSub; simp [hx, hd, hv]

theorem C03_neg_neg (a : Qty) : Registry.neg (Registry.neg a) = a := by
  cases a with
  | mk mag units => simp [Registry.neg, Rat.neg_neg]

theorem C03_neg_units (a : Qty) : (Registry.neg a).units = a.units ∧ (Registry.abs a).units = a.units := ⟨rfl, rfl⟩

/-! Covariance: the result depends only on the operands' physical value `rootMag q f = q.mag * f`.  The
hypotheses `Good R S q f ru d` (`Proofs/QtyLemmas.lean`) are shown satisfiable on the bundled registry in
`Proofs/QtyExamples.lean`. -/

section
variable {R : Registry} {S : String → Prop} (hW : R.WFintOn S) (m : Mode)
include hW
variable {a a' b b' : Qty} {fa fa' fb fb' : Rat} {ua ua' ub ub' da da' db db' : UC}

omit m in
theorem mag_ne_zero (hb : Good R S b fb ub db)
    (vb : rootMag b fb = rootMag b' fb') (hz : b.mag ≠ 0) : b'.mag ≠ 0 := by
  intro h
  have : b.mag * fb = b'.mag * fb' := vb
  rw [h, Rat.zero_mul, rat_mul_eq_zero_left (hb.factor_ne_zero hW)] at this
  exact hz this

/-- + and − : the sum in root units is the sum of the operands in root units, whatever units
    the operands are written in -/
theorem C03_add_value (op : AddOp) (ha : Good R S a fa ua da) (hb : Good R S b fb ub db)
    (he : da.beq db = true) :
    ∃ c fc, R.addSub m op a (.q b) = .ok c ∧
      (c.units = a.units ∧ fc = fa ∨ c.units = b.units ∧ fc = fb) ∧
      c.mag * fc = op.app (a.mag * fa) (b.mag * fb) := by
  obtain ⟨c, h, h' | h'⟩ := addSub_good hW m ha hb op he
  · exact ⟨c, fa, h, Or.inl ⟨h'.1, rfl⟩, h'.2⟩
  · exact ⟨c, fb, h, Or.inr ⟨h'.2.1, rfl⟩, h'.2.2⟩

theorem C03_cov_add (op : AddOp) {c c' : Qty}
    (ha : Good R S a fa ua da) (ha' : Good R S a' fa' ua' da')
    (hb : Good R S b fb ub db) (hb' : Good R S b' fb' ub' db')
    (va : rootMag a fa = rootMag a' fa') (vb : rootMag b fb = rootMag b' fb')
    (hc : R.addSub m op a (.q b) = .ok c) (hc' : R.addSub m op a' (.q b') = .ok c') :
    ∃ fc fc', (c.units = a.units ∧ fc = fa ∨ c.units = b.units ∧ fc = fb) ∧
      (c'.units = a'.units ∧ fc' = fa' ∨ c'.units = b'.units ∧ fc' = fb') ∧
      rootMag c fc = rootMag c' fc' := by
  have he : ∀ {a b : Qty} {c da db}, R.getDimensionality a.units = .ok da →
      R.getDimensionality b.units = .ok db → R.addSub m op a (.q b) = .ok c → da.beq db = true := by
    intro a b c da db ha hb hc
    cases h : da.beq db
    · rw [C03_add_dim_error R m op a b ha hb h] at hc; cases hc
    · rfl
  obtain ⟨_, fc, h, h1, h2⟩ := C03_add_value hW m op ha hb (he ha.dim hb.dim hc)
  obtain ⟨_, fc', h', h1', h2'⟩ := C03_add_value hW m op ha' hb' (he ha'.dim hb'.dim hc')
  rw [hc] at h; cases h
  rw [hc'] at h'; cases h'
  exact ⟨fc, fc', h1, h1', h2.trans ((congr (congrArg op.app va) vb).trans h2'.symm)⟩

/-- success or failure of + / − does not depend on the units either -/
theorem C03_cov_add_ok (op : AddOp)
    (ha : Good R S a fa ua da) (ha' : Good R S a' fa' ua' da')
    (hb : Good R S b fb ub db) (hb' : Good R S b' fb' ub' db')
    (ea : da.beq da' = true) (eb : db.beq db' = true) :
    (∃ c, R.addSub m op a (.q b) = .ok c) ↔ (∃ c', R.addSub m op a' (.q b') = .ok c') := by
  have ht := UC.beq_congr ea eb
  cases h : da.beq db
  · rw [C03_add_dim_error R m op a b ha.dim hb.dim h,
      C03_add_dim_error R m op a' b' ha'.dim hb'.dim (ht ▸ h)]
  · obtain ⟨c, h1, _⟩ := addSub_good hW m ha hb op h
    obtain ⟨c', h1', _⟩ := addSub_good hW m ha' hb' op (ht ▸ h)
    exact ⟨fun _ => ⟨c', h1'⟩, fun _ => ⟨c, h1⟩⟩

theorem C03_cov_mul (ha : Good R S a fa ua da) (ha' : Good R S a' fa' ua' da')
    (hb : Good R S b fb ub db) (hb' : Good R S b' fb' ub' db')
    (va : rootMag a fa = rootMag a' fa') (vb : rootMag b fb = rootMag b' fb') :
    ∃ c c' fc fc' uc uc', R.mulDiv m .mul a (.q b) = .ok c ∧ R.mulDiv m .mul a' (.q b') = .ok c' ∧
      R.getRootUnits c.units = .ok (fc, uc) ∧ R.getRootUnits c'.units = .ok (fc', uc') ∧
      rootMag c fc = rootMag c' fc' := by
  obtain ⟨c, fc, uc, h1, h2, h3⟩ := mul_phys hW m ha hb
  obtain ⟨c', fc', uc', h1', h2', h3'⟩ := mul_phys hW m ha' hb'
  exact ⟨c, c', fc, fc', uc, uc', h1, h1', h2, h2',
    h3.trans ((congr (congrArg _ va) vb).trans h3'.symm)⟩

theorem C03_cov_div (ha : Good R S a fa ua da) (ha' : Good R S a' fa' ua' da')
    (hb : Good R S b fb ub db) (hb' : Good R S b' fb' ub' db')
    (va : rootMag a fa = rootMag a' fa') (vb : rootMag b fb = rootMag b' fb') (hz : b.mag ≠ 0) :
    ∃ c c' fc fc' uc uc', R.mulDiv m .div a (.q b) = .ok c ∧ R.mulDiv m .div a' (.q b') = .ok c' ∧
      R.getRootUnits c.units = .ok (fc, uc) ∧ R.getRootUnits c'.units = .ok (fc', uc') ∧
      rootMag c fc = rootMag c' fc' := by
  obtain ⟨c, fc, uc, h1, h2, h3⟩ := div_phys hW m ha hb hz
  obtain ⟨c', fc', uc', h1', h2', h3'⟩ := div_phys hW m ha' hb' (mag_ne_zero hW hb vb hz)
  exact ⟨c, c', fc, fc', uc, uc', h1, h1', h2, h2',
    h3.trans ((congr (congrArg _ va) vb).trans h3'.symm)⟩

/-- floor division: the same number (or the same error) in any units -/
theorem C03_cov_floordiv (ha : Good R S a fa ua da) (ha' : Good R S a' fa' ua' da')
    (hb : Good R S b fb ub db) (hb' : Good R S b' fb' ub' db')
    (ea : da.beq da' = true) (eb : db.beq db' = true)
    (va : rootMag a fa = rootMag a' fa') (vb : rootMag b fb = rootMag b' fb') :
    R.floordiv m a (.q b) = R.floordiv m a' (.q b') := by
  rw [floordiv_char hW m ha hb, floordiv_char hW m ha' hb', UC.beq_congr ea eb,
    show a.mag * fa = a'.mag * fa' from va, show b.mag * fb = b'.mag * fb' from vb]

theorem C03_cov_mod (ha : Good R S a fa ua da) (ha' : Good R S a' fa' ua' da')
    (hb : Good R S b fb ub db) (hb' : Good R S b' fb' ub' db')
    (ea : da.beq da' = true) (eb : db.beq db' = true)
    (va : rootMag a fa = rootMag a' fa') (vb : rootMag b fb = rootMag b' fb')
    (he : da.beq db = true) (hz : b.mag ≠ 0) :
    ∃ c c', R.mod m a (.q b) = .ok c ∧ R.mod m a' (.q b') = .ok c' ∧
      c.units = a.units ∧ c'.units = a'.units ∧ rootMag c fa = rootMag c' fa' := by
  obtain ⟨c, h1, h2, h3⟩ := mod_phys hW m ha hb he hz
  obtain ⟨c', h1', h2', h3'⟩ := mod_phys hW m ha' hb'
    (UC.beq_congr ea eb ▸ he) (mag_ne_zero hW hb vb hz)
  exact ⟨c, c', h1, h1', h2, h2', h3.trans ((congr (congrArg _ va) vb).trans h3'.symm)⟩

/-- ordering (positively scaled units): the same truth value or the same error in any units -/
theorem C03_cov_compare (op : CmpOp)
    (ha : Good R S a fa ua da) (ha' : Good R S a' fa' ua' da')
    (hb : Good R S b fb ub db) (hb' : Good R S b' fb' ub' db')
    (ea : da.beq da' = true) (eb : db.beq db' = true)
    (va : rootMag a fa = rootMag a' fa') (vb : rootMag b fb = rootMag b' fb')
    (hpos : 0 < fa) (hpos' : 0 < fa')
    (hra : RootGood R S ua da) (hrb : RootGood R S ub db)
    (hra' : RootGood R S ua' da') (hrb' : RootGood R S ub' db') :
    R.compare m op a (.q b) = R.compare m op a' (.q b') := by
  rw [compare_char hW m ha hb op hpos hra hrb, compare_char hW m ha' hb' op hpos' hra' hrb',
    UC.beq_congr ea eb, show a.mag * fa = a'.mag * fa' from va, show b.mag * fb = b'.mag * fb' from vb]

theorem C03_cov_eq (ha : Good R S a fa ua da) (ha' : Good R S a' fa' ua' da')
    (hb : Good R S b fb ub db) (hb' : Good R S b' fb' ub' db')
    (ea : da.beq da' = true) (eb : db.beq db' = true)
    (va : rootMag a fa = rootMag a' fa') (vb : rootMag b fb = rootMag b' fb') :
    R.qeq m a (.q b) = R.qeq m a' (.q b') := by
  rw [qeq_char hW m ha hb, qeq_char hW m ha' hb', UC.beq_congr ea eb,
    show a.mag * fa = a'.mag * fa' from va, show b.mag * fb = b'.mag * fb' from vb]

end

end Pint.Props.C03
