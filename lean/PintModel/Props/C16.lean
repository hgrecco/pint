/-
  C16 — NumPy functions on quantity arrays respect units.

  Model: `PintModel/Model/Numpy.lean` (`meaning` of a table registration, `outputUnit` =
  `get_op_output_unit`, `convertBare`), the behaviour tables regenerated from
  `pint/facets/numpy/numpy_func.py` (`Gen/NumpyTables.lean`) and the hand-curated table of the
  mathematically implied behaviour of every NumPy name (`spec/numpy_implied.tsv` →
  `Gen/NumpySpec.lean`).  NumPy's numerics, broadcasting and the `__array_ufunc__` /
  `__array_function__` dispatch are runtime: the harness compares results, re-expresses inputs in
  other compatible units and snapshots the input arrays.
-/
import PintModel.Model.Numpy
import PintModel.Gen.NumpyTables
import PintModel.Gen.NumpySpec
import PintModel.Props.C01

namespace Pint.Props.C16
open Pint Pint.Np Pint.UC

/-- what the curated table says of a NumPy name: (implied behaviour, does NumPy ever dispatch it) -/
def impliedOf (kind name : String) : Option (String × Bool) :=
  (Gen.numpyImplied.find? (fun e => e.1 == kind && e.2.1 == name)).map (fun e => (e.2.2.1, e.2.2.2))

/-- the four registrations whose bookkeeping is NOT the implied one (findings F30 / F31):
    `floor_divide` divides unconverted magnitudes, `fmod` / `mod` / `remainder` ignore the second operand's unit -/
def knownWrong : List (String × String) :=
  [("ufunc", "fmod"), ("ufunc", "mod"), ("ufunc", "remainder"), ("ufunc", "floor_divide")]

/-- does a registration have exactly the implied bookkeeping? (names NumPy never dispatches are exempt) -/
def entryOK (e : String × String × String × String) : Bool :=
  match impliedOf e.1 e.2.1 with
  | some (c, true) => c == meaning e.2.2.1 e.2.2.2
  | some (_, false) => true
  | none => false

/-- the registrations whose bookkeeping differs from the implied one are exactly the four recorded ones
    (an entry moved to the wrong collection, or a wrong unit string, changes this list and breaks the proof) -/
theorem C16_table_partial :
    (Gen.numpyTable.filter (fun e => !entryOK e)).map (fun e => (e.1, e.2.1)) = knownWrong := by decide +kernel

theorem knownWrong_of_not_ok {e : String × String × String × String} (he : e ∈ Gen.numpyTable)
    (h : entryOK e = false) : (e.1, e.2.1) ∈ knownWrong :=
  C16_table_partial ▸ List.mem_map.mpr ⟨e, List.mem_filter.mpr ⟨he, by simp [h]⟩, rfl⟩

/-- every table-driven registration is specified: an unspecified one would fail `entryOK`, so it
    would be one of the four recorded names, and those are specified -/
theorem C16_coverage : ∀ e ∈ Gen.numpyTable, (impliedOf e.1 e.2.1).isSome = true := by
  intro e he
  cases h : impliedOf e.1 e.2.1 with
  | some _ => rfl
  | none =>
    have hk := knownWrong_of_not_ok he (by simp [entryOK, h])
    have hs : ∀ p ∈ knownWrong, (impliedOf p.1 p.2).isSome = true := by decide +kernel
    exact absurd (hs _ hk) (by simp [h])

/-- every registration other than the four recorded ones has the implied bookkeeping (or is never dispatched) -/
theorem C16_table_ok (e : String × String × String × String) (he : e ∈ Gen.numpyTable)
    (hk : knownWrong.contains (e.1, e.2.1) = false) : entryOK e = true := by
  cases h : entryOK e with
  | true => rfl
  | false => rw [List.contains_iff_mem.mpr (knownWrong_of_not_ok he h)] at hk; cases hk

/-- the hand-written implementations are exactly the curated list (a new one cannot appear unnoticed) -/
theorem C16_custom : Gen.numpyCustom.map (fun e => (e.1, e.2.1)) =
    [("ufunc", "modf"), ("ufunc", "frexp"), ("ufunc", "power"), ("ufunc", "add"), ("ufunc", "subtract"),
     ("function", "meshgrid"), ("function", "full_like"), ("function", "interp"), ("function", "where"),
     ("function", "concatenate"), ("function", "stack"), ("function", "unwrap"), ("function", "copyto"),
     ("function", "einsum"), ("function", "isin"), ("function", "pad"), ("function", "any"), ("function", "all"),
     ("function", "trapz"), ("function", "trapezoid"), ("function", "correlate")] := by decide +kernel

/-- `get_op_output_unit` for "mul", "div" (an argument without units counts as dimensionless) and the fixed powers -/
theorem C16_unit_mul (R : Registry) (m : Mode) (first a b : UC) :
    outputUnit R m .mul first [some a, some b] = .ok (UC.mul (UC.mul [] a) b) := rfl

theorem C16_unit_div (R : Registry) (m : Mode) (first a b : UC) :
    outputUnit R m .div first [some a, some b] = .ok (a.div b) := rfl

theorem C16_unit_div_bare (R : Registry) (m : Mode) (first b : UC) :
    outputUnit R m .div first [none, some b] = .ok (UC.div [] b) := rfl

theorem C16_unit_powers (R : Registry) (m : Mode) (u : UC) (args : List (Option UC)) :
    outputUnit R m .square u args = .ok (u.pow 2) ∧ outputUnit R m .sqrt u args = .ok (u.pow (1 / 2)) ∧
    outputUnit R m .cbrt u args = .ok (u.pow (1 / 3)) ∧ outputUnit R m .reciprocal u args = .ok (u.pow (-1)) :=
  ⟨rfl, rfl, rfl, rfl⟩

/-- re-expressing the inputs in other compatible units leaves the dimensionality of the output unchanged:
    products, quotients and powers -/
theorem C16_cov_mul (R : Registry) {a a' b b' : UC} (hn : a.keys.Nodup) (hn' : a'.keys.Nodup)
    (h1 : C01.Compat R a a') (h2 : C01.Compat R b b') : C01.Compat R (a.mul b) (a'.mul b') :=
  C01.compat_mul R hn hn' h1 h2

theorem C16_cov_div (R : Registry) {a a' b b' : UC} (hn : a.keys.Nodup) (hn' : a'.keys.Nodup)
    (h1 : C01.Compat R a a') (h2 : C01.Compat R b b') : C01.Compat R (a.div b) (a'.div b') :=
  C01.compat_div R hn hn' h1 h2

theorem C16_cov_pow (R : Registry) (r : Rat) {a a' : UC} (h1 : C01.Compat R a a') :
    C01.Compat R (a.pow r) (a'.pow r) := C01.compat_pow R r h1

/-- a bare number where a quantity in units u is expected: accepted only if u is dimensionless or the number is 0 / NaN -/
theorem C16_refuse_bare : convertBare false .other = .error .dimensionality ∧ convertBare false .zeroOrNan = .ok () ∧
    ∀ a, convertBare true a = .ok () := by
  refine ⟨rfl, rfl, ?_⟩
  intro a; cases a <;> rfl

example : impliedOf "function" "sum" = some ("sum", true) ∧ impliedOf "ufunc" "multiply" = some ("mul", true) ∧
    impliedOf "function" "var" = some ("variance", true) ∧ impliedOf "ufunc" "sqrt" = some ("sqrt", true) ∧
    impliedOf "ufunc" "sin" = some ("fixed:radian>", true) ∧ impliedOf "ufunc" "isnan" = some ("bare", true) ∧
    impliedOf "function" "argmax" = some ("bare", true) := by decide +kernel

end Pint.Props.C16
