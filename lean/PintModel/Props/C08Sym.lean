/-
  C08 — "the canonical name and symbol reported for any accepted spelling are those of the definition":
  the symbol clause, after the F63 repair.
-/
import PintModel.Model.Registry
import PintModel.Props.C08
import PintModel.Gen.DefaultRegistry

namespace Pint.Props.C08Sym
open Pint

/-- a spelling whose first reading is prefix + unit, where prefix ++ unit has a definition of its own
    (milliarcsecond = ... = mas): the symbol reported is the one of that definition -/
theorem C08_symbol_explicit (R : Registry) (s p u sfx : String) (cs : Option Bool)
    (rest : List (String × String × String)) (own : UnitDef)
    (hc : R.parseUnitName s cs = (p, u, sfx) :: rest) (hp : p ≠ "")
    (ho : R.units.find? (p ++ u) = some own) :
    R.getSymbol s cs = .ok own.sym := by
  unfold Registry.getSymbol
  simp only [hc]
  have : (p != "") = true := by simpa using hp
  simp only [this, if_true, ho]

/-- a plain (unprefixed) reading reports the symbol of the unit's definition -/
theorem C08_symbol_plain (R : Registry) (s u sfx : String) (cs : Option Bool)
    (rest : List (String × String × String)) (pd : PrefixDef) (ud : UnitDef)
    (hc : R.parseUnitName s cs = ("", u, sfx) :: rest)
    (hp : R.prefixes.find? "" = some pd) (hps : pd.sym = "") (hu : R.units.find? u = some ud) :
    R.getSymbol s cs = .ok ud.sym := by
  unfold Registry.getSymbol
  simp only [hc]
  simp [hp, hu, hps]

/-- a prefixed reading without a definition of its own: prefix symbol ++ unit symbol -/
theorem C08_symbol_prefixed (R : Registry) (s p u sfx : String) (cs : Option Bool)
    (rest : List (String × String × String)) (pd : PrefixDef) (ud : UnitDef)
    (hc : R.parseUnitName s cs = (p, u, sfx) :: rest) (ho : R.units.find? (p ++ u) = none)
    (hp : R.prefixes.find? p = some pd) (hu : R.units.find? u = some ud) :
    R.getSymbol s cs = .ok (pd.sym ++ ud.sym) := by
  unfold Registry.getSymbol
  simp only [hc]
  by_cases h : (p != "") = true <;> simp [h, ho, hp, hu]

/-- no reading: UndefinedUnitError -/
theorem C08_symbol_undefined (R : Registry) (s : String) (cs : Option Bool)
    (hc : R.parseUnitName s cs = []) : R.getSymbol s cs = .error .undefined := by
  unfold Registry.getSymbol
  simp only [hc]

/-- on the registry generated from the bundled definition files: the two explicitly defined prefixed units whose
    symbol differs from prefix symbol ++ unit symbol, an ordinary prefixed spelling, and a plain one -/
example : (Gen.defaultRegistry.getSymbol "milliarcsecond").toOption = some "mas"
    ∧ (Gen.defaultRegistry.getSymbol "kilometer_per_second").toOption = some "kps"
    ∧ (Gen.defaultRegistry.getSymbol "kilometers").toOption = some "km"
    ∧ (Gen.defaultRegistry.getSymbol "kilogram").toOption = some "kg"
    ∧ (Gen.defaultRegistry.getSymbol "ft").toOption = some "ft" := C08.default_vectors.2

end Pint.Props.C08Sym
