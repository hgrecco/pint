/-
  C11 — context conversions apply the declared rules along a shortest chain.

  Model: `Model/Context.lean` (`ContextChain` lookup, `enable_contexts` parameter merging,
  `find_shortest_path`, context-aware `_convert`).
-/
import PintModel.Model.Context
import PintModel.Proofs.BfsLemmas
import PintModel.Proofs.ParamLemmas

namespace Pint.Props.C11
open Pint Pint.Ctx

/-- the most recently enabled context wins when rules collide: the rule used for an edge is the
    one of the first context (in stack order, most recent first) that has a rule for it -/
theorem C11_precedence (st : State) (c : Context) (src dst : UC) :
    lookupRule { st with active := c :: st.active } src dst =
      (match c.rules.find? (fun r => sameKey (r.src, r.dst) (src, dst)) with
        | some r => some (r, c)
        | none => lookupRule st src dst) := by
  unfold lookupRule
  simp only [List.findSome?_cons]
  cases c.rules.find? (fun r => sameKey (r.src, r.dst) (src, dst)) <;> rfl

/-- contexts passed in one call: the last argument is the most recent -/
theorem C11_enable_order (st st' : State) (names : List String) (kw : List (String × Rat))
    (h : enable st names kw = .ok st') :
    ∃ inst : List Context, inst.length = names.length ∧ st'.active = inst.reverse ++ st.active ∧
      st'.contexts = st.contexts := by
  obtain ⟨cs, hres, rfl⟩ := enable_ok h
  exact ⟨_, by rw [List.length_map, (resolve_ok hres).1], rfl, rfl⟩

/-- parameters, the `from_context` part: an instance carries the context's declared defaults overridden by
    the keywords it is given; with the enclosing active context: `C11Params.C11_param_inheritance` -/
theorem C11_params (c : Context) (kw : List (String × Rat)) (hk : kw ≠ []) :
    (fromContext c kw).defaults = mergeKw c.defaults kw ∧ (fromContext c []).defaults = c.defaults := by
  have _ := hk  -- not needed: `mergeKw base [] = base`
  exact ⟨fromContext_defaults c kw, rfl⟩

theorem mergeKw_find_kw (base kw : List (String × Rat)) (k : String) (v : Rat)
    (hkw : kw = [(k, v)]) : (mergeKw base kw).find? (·.1 == k) = some (k, v) := by
  subst hkw
  obtain ⟨p, hf, hv⟩ := Option.map_eq_some_iff.mp ((getKV_kwStep base (k, v) k).trans (if_pos rfl))
  have hk : p.1 = k := by simpa using List.find?_some hf
  exact hf.trans (congrArg some (Prod.ext hk hv))

/-- same-dimension conversions are unchanged by active contexts -/
theorem C11_same_dim (R : Registry) (m : Mode) (st : State) (x : Rat) (src dst sd dd : UC)
    (hs : R.getDimensionality src = .ok sd) (hd : R.getDimensionality dst = .ok dd)
    (he : sd.beq dd = true) (hne : src.beq dst = false) :
    convert R m st x src dst = R.convert x src dst m.autoconvert := by
  unfold convert
  by_cases ha : st.active.isEmpty = true
  · simp [ha]
  · simp only [ha, Bool.false_eq_true, if_false, hne, hs, hd]
    unfold findShortestPath
    simp only [he, if_true]
    unfold convertAlong convertAlong.go
    rfl

/-- unreachable targets still go through the plain conversion (hence DimensionalityError, C01) -/
theorem C11_unreachable (R : Registry) (m : Mode) (st : State) (x : Rat) (src dst sd dd : UC)
    (hs : R.getDimensionality src = .ok sd) (hd : R.getDimensionality dst = .ok dd)
    (hne : src.beq dst = false)
    (hp : findShortestPath (edges st) sd dd = none) :
    convert R m st x src dst = R.convert x src dst m.autoconvert := by
  unfold convert
  by_cases ha : st.active.isEmpty = true
  · simp [ha]
  · simp [ha, hne, hs, hd, hp]

/-- with no context active nothing changes -/
theorem C11_no_context (R : Registry) (m : Mode) (st : State) (x : Rat) (src dst : UC)
    (h : st.active = []) : convert R m st x src dst = R.convert x src dst m.autoconvert := by
  unfold convert; simp [h]

/-- a returned path is a walk of the active graph from the source dimension to the destination -/
theorem C11_path_valid {es : List (UC × UC)} (hr : Pint.Ctx.EdgeRefl es) {s t : UC} {p : List UC}
    (h : Pint.Ctx.findShortestPath es s t = some p) :
    Pint.Ctx.isPath es p = true ∧ p.head? = some s ∧ ∃ last, p.getLast? = some last ∧ last.beq t = true :=
  Pint.Ctx.bfs_path hr h

/-- and no walk from source to destination is shorter -/
theorem C11_path_shortest {es : List (UC × UC)} (hr : Pint.Ctx.EdgeRefl es) {s t : UC} (hs : s.beq s = true)
    {p : List UC} (h : Pint.Ctx.findShortestPath es s t = some p) :
    ∀ p' : List UC, Pint.Ctx.isPath es p' = true → p'.head? = some s →
      (∃ last, p'.getLast? = some last ∧ last.beq t = true) → p.length ≤ p'.length :=
  Pint.Ctx.bfs_shortest hr hs h

/-- "no path" means the destination is unreachable: no walk of the active graph leads from the source
    dimension to a node equal to the destination.  Unconditional: the fuel `Pint.Ctx.bfsFuel es` of the
    model is proved to bound the number of iterations of pint's (fuel-free) loop
    (`Pint.Ctx.bfs_fuel_suffices`), although that loop marks nodes visited only when popped and its queue
    may grow exponentially with the number of layers of the graph. -/
theorem C11_path_none {es : List (UC × UC)} (hr : Pint.Ctx.EdgeRefl es) {s t : UC}
    (hs : s.beq s = true) (h : Pint.Ctx.findShortestPath es s t = none) :
    ¬ ∃ p, Pint.Ctx.isPath es p = true ∧ p.head? = some s ∧ (∃ l, p.getLast? = some l ∧ l.beq t = true) :=
  Pint.Ctx.bfs_none_unreachable_full hr hs h

/-- the model's loop never runs out of fuel -/
theorem C11_fuel_suffices {es : List (UC × UC)} (hr : Pint.Ctx.EdgeRefl es) {s t : UC}
    (hs : s.beq s = true) : Pint.Ctx.bfsExhausts es t (Pint.Ctx.bfsFuel es) [(s, [s])] [] = false :=
  Pint.Ctx.bfs_fuel_suffices hr hs

/-- the hypotheses are met by containers without duplicate keys (every container pint builds) -/
theorem C11_edgeRefl {es : List (UC × UC)} (h : ∀ e ∈ es, (e.2.map (·.1)).Nodup) : Pint.Ctx.EdgeRefl es :=
  Pint.Ctx.edgeRefl_of_nodup h

example : Pint.Ctx.findShortestPath [([("[length]", 1)], [("[time]", 1)]), ([("[time]", 1)], [("[mass]", 1)])]
    [("[length]", 1)] [("[mass]", 1)] = some [[("[length]", 1)], [("[time]", 1)], [("[mass]", 1)]] := by decide +kernel

/-- an unreachable destination (edges are directed): the search answers `none` -/
example : Pint.Ctx.findShortestPath [([("[length]", 1)], [("[time]", 1)]), ([("[time]", 1)], [("[mass]", 1)])]
    [("[mass]", 1)] [("[length]", 1)] = none := by decide +kernel

def nd (i : Nat) : UC := [("x", (i : Rat))]

/-- layers `{2j-1, 2j}`, `j = 1..d`, fully connected to the next layer; `0` is the start and `2d+1` the
    target (the queue of the loop doubles at every layer: nodes are marked visited when popped) -/
def layered (d : Nat) : List (UC × UC) :=
  [(nd 0, nd 1), (nd 0, nd 2)] ++
  (List.range (d - 1)).flatMap (fun j =>
    [(nd (2*j+1), nd (2*j+3)), (nd (2*j+1), nd (2*j+4)), (nd (2*j+2), nd (2*j+3)), (nd (2*j+2), nd (2*j+4))]) ++
  [(nd (2*d-1), nd (2*d+1)), (nd (2*d), nd (2*d+1))]

example : Pint.Ctx.findShortestPath (layered 3) (nd 0) (nd 7) = some [nd 0, nd 1, nd 3, nd 5, nd 7] := by
  decide +kernel

end Pint.Props.C11
