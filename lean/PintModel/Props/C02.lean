/-
  C02 — conversion factors equal the exact ratio implied by the written definitions.

  Model: `Registry.getRootUnits` (`_get_root_units[_recurse]`), `Registry.convFactor`,
  `Registry.convertPlain`.  Exponents are integers (rational exponents on scaled units are
  evaluated by pint in float: compared numerically by the correspondence only).
-/
import PintModel.Proofs.RootLemmas
import PintModel.Proofs.DimLemmas
import PintModel.Proofs.DictLemmas
import PintModel.Gen.DefaultRegistry

namespace Pint.Props.C02
open Pint Pint.UC Pint.Registry

/-! Root-unit expansion is a homomorphism into (ℚˣ, base-unit exponents). -/

theorem C02_root_mul (R : Registry) {S : String → Prop} (hW : R.WFintOn S) {a b : UC}
    (ha : IntUC a) (hb : IntUC b) (hKa : KeysIn S a) (hKb : KeysIn S b) (hn : a.keys.Nodup)
    {fa fb : Rat} {ua ub : UC}
    (h1 : R.getRootUnits a = .ok (fa, ua)) (h2 : R.getRootUnits b = .ok (fb, ub)) :
    ∃ f u, R.getRootUnits (a.mul b) = .ok (f, u) ∧ f = fa * fb ∧ ∀ d, u.get d = ua.get d + ub.get d :=
  R.getRootUnits_mul_on hW ha hb hKa hKb hn h1 h2

theorem C02_root_div (R : Registry) {S : String → Prop} (hW : R.WFintOn S) {a b : UC}
    (ha : IntUC a) (hb : IntUC b) (hKa : KeysIn S a) (hKb : KeysIn S b) (hn : a.keys.Nodup)
    {fa fb : Rat} {ua ub : UC}
    (h1 : R.getRootUnits a = .ok (fa, ua)) (h2 : R.getRootUnits b = .ok (fb, ub)) :
    ∃ f u, R.getRootUnits (a.div b) = .ok (f, u) ∧ f = fa / fb ∧ ∀ d, u.get d = ua.get d - ub.get d :=
  R.getRootUnits_div_on hW ha hb hKa hKb hn h1 h2

theorem C02_root_pow (R : Registry) {S : String → Prop} (hW : R.WFintOn S) {a : UC}
    (ha : IntUC a) (hKa : KeysIn S a) (n : Int) {fa : Rat} {ua : UC}
    (h1 : R.getRootUnits a = .ok (fa, ua)) :
    ∃ u, R.getRootUnits (a.pow (n : Rat)) = .ok (fa ^ n, u) ∧ ∀ d, u.get d = (n : Rat) * ua.get d :=
  R.getRootUnits_pow_on hW ha hKa n h1

theorem C02_root_ne_zero (R : Registry) {S : String → Prop} (hW : R.WFintOn S)
    {u : UC} (hI : IntUC u) (hK : KeysIn S u) {f : Rat} {us : UC}
    (h : R.getRootUnits u = .ok (f, us)) : f ≠ 0 :=
  R.getRootUnits_factor_ne_zero_on hW hI hK h

/-- the hypotheses on a container under which the exact statements hold -/
structure Exact (R : Registry) (S : String → Prop) (a : UC) (fa : Rat) (ua : UC) : Prop where
  int : IntUC a
  keys : KeysIn S a
  nodup : a.keys.Nodup
  root : R.getRootUnits a = .ok (fa, ua)

theorem C02_factor (R : Registry) {S : String → Prop} (hW : R.WFintOn S) {a b da db ua ub : UC} {fa fb : Rat}
    (ea : Exact R S a fa ua) (eb : Exact R S b fb ub)
    (ha : R.getDimensionality a = .ok da) (hb : R.getDimensionality b = .ok db)
    (he : da.beq db = true) :
    R.convFactor a b = .ok (fa / fb) :=
  (R.convFactor_char hW ea.int eb.int ea.keys eb.keys ea.nodup ha hb ea.root eb.root).trans (if_pos he)

/-- converting x returns x times the ratio of the expansions through the written definitions -/
theorem C02_convert (R : Registry) {S : String → Prop} (hW : R.WFintOn S) {a b da db ua ub : UC} {fa fb : Rat}
    (ea : Exact R S a fa ua) (eb : Exact R S b fb ub)
    (ha : R.getDimensionality a = .ok da) (hb : R.getDimensionality b = .ok db)
    (he : da.beq db = true) (x : Rat) :
    R.convertPlain x a b = .ok (x * (fa / fb)) :=
  (R.convertPlain_char hW ea.int eb.int ea.keys eb.keys ea.nodup ha hb ea.root eb.root x).trans (if_pos he)

/-- conversion between equal units is the identity (the `src == dst` shortcut of `convert`) -/
theorem C02_identity (R : Registry) {a : UC} (h : a.keys.Nodup) (x : Rat) (auto : Bool) :
    R.convert x a a auto = .ok x := by
  unfold Registry.convert; simp [beq_refl h]

/-- … and also without the shortcut: the factor of `a → a` is 1 -/
theorem C02_factor_self (R : Registry) {S : String → Prop} (hW : R.WFintOn S) {a da ua : UC} {fa : Rat}
    (ea : Exact R S a fa ua) (ha : R.getDimensionality a = .ok da) :
    R.convFactor a a = .ok 1 := by
  have hne := R.getRootUnits_factor_ne_zero_on hW ea.int ea.keys ea.root
  have := C02_factor R hW ea ea ha ha (beq_refl (R.getDim_canon ha).1)
  rw [this, Rat.div_def, Rat.mul_inv_cancel _ hne]

/-- invertible: factor(a,b) * factor(b,a) = 1 -/
theorem C02_inverse (R : Registry) {S : String → Prop} (hW : R.WFintOn S) {a b da db ua ub : UC} {fa fb f g : Rat}
    (ea : Exact R S a fa ua) (eb : Exact R S b fb ub)
    (ha : R.getDimensionality a = .ok da) (hb : R.getDimensionality b = .ok db)
    (he : da.beq db = true)
    (hf : R.convFactor a b = .ok f) (hg : R.convFactor b a = .ok g) : f * g = 1 := by
  have hna := R.getRootUnits_factor_ne_zero_on hW ea.int ea.keys ea.root
  have hnb := R.getRootUnits_factor_ne_zero_on hW eb.int eb.keys eb.root
  rw [C02_factor R hW ea eb ha hb he] at hf
  rw [C02_factor R hW eb ea hb ha (beq_comm da db ▸ he)] at hg
  cases hf; cases hg
  rw [Rat.div_def, Rat.div_def, Rat.mul_assoc, ← Rat.mul_assoc (fb⁻¹), Rat.inv_mul_cancel _ hnb,
    Rat.one_mul, Rat.mul_inv_cancel _ hna]

/-- path independent: factor(a,b) * factor(b,c) = factor(a,c) -/
theorem C02_path (R : Registry) {S : String → Prop} (hW : R.WFintOn S)
    {a b c da db dc ua ub uc : UC} {fa fb fc f g h : Rat}
    (ea : Exact R S a fa ua) (eb : Exact R S b fb ub) (ec : Exact R S c fc uc)
    (ha : R.getDimensionality a = .ok da) (hb : R.getDimensionality b = .ok db)
    (hc : R.getDimensionality c = .ok dc)
    (hab : da.beq db = true) (hbc : db.beq dc = true)
    (hf : R.convFactor a b = .ok f) (hg : R.convFactor b c = .ok g) (hh : R.convFactor a c = .ok h) :
    f * g = h := by
  have hnb := R.getRootUnits_factor_ne_zero_on hW eb.int eb.keys eb.root
  rw [C02_factor R hW ea eb ha hb hab] at hf
  rw [C02_factor R hW eb ec hb hc hbc] at hg
  rw [C02_factor R hW ea ec ha hc (beq_trans hab hbc)] at hh
  cases hf; cases hg; cases hh
  rw [Rat.div_def, Rat.div_def, Rat.div_def, Rat.mul_assoc, ← Rat.mul_assoc (fb⁻¹),
    Rat.inv_mul_cancel _ hnb, Rat.one_mul]

/-! For the kernel a lookup in the 958-entry unit table is a scan, and comparing strings is what it
  pays for.  Cutting a list into buckets by a fingerprint of the key leaves every answer as it is
  (`find?_bucketOf`, `contains_bucketOf`) and makes the scans a sixteenth as long. -/

/-- fingerprint of a key: its first two bytes (any function would do) -/
def hkey (s : String) : Nat :=
  match s.toByteArray.data.toList with
  | [] => 0
  | [b] => b.toNat
  | b :: c :: _ => b.toNat + 7 * c.toNat

def bucketsBy {β : Type} (key : β → String) (m : Nat) (l : List β) : List (List β) :=
  (List.range m).map fun b => l.filter fun e => hkey (key e) % m == b

def bucketOf {β : Type} (bk : List (List β)) (k : String) : List β :=
  (bk[hkey k % bk.length]?).getD []

theorem bucketOf_bucketsBy {β : Type} (key : β → String) {m : Nat} (hm : 0 < m) (l : List β) (k : String) :
    bucketOf (bucketsBy key m l) k = l.filter fun e => hkey (key e) % m == hkey k % m := by
  simp [bucketOf, bucketsBy, List.getElem?_range (Nat.mod_lt _ hm)]

theorem find?_bucketOf {α : Type} {m : Nat} (hm : 0 < m) (d : Dict α) (k : String) :
    Dict.find? (bucketOf (bucketsBy (·.1) m d) k) k = d.find? k := by
  rw [bucketOf_bucketsBy _ hm]
  exact Dict.find?_filter (p := fun s => hkey s % m == hkey k % m) (beq_self_eq_true _) d

theorem contains_bucketOf {m : Nat} (hm : 0 < m) (L : List String) (k : String) :
    (bucketOf (bucketsBy id m L) k).contains k = L.contains k := by
  rw [bucketOf_bucketsBy _ hm, Bool.eq_iff_iff]
  simp [List.mem_filter]

/-- what `WFintOn` asks of a definition, `mem` being membership in `S` -/
def defOK (mem : String → Bool) (d : UnitDef) : Bool :=
  d.isBase || (d.ref.all (fun p => p.2.den == 1 && mem p.1) &&
    (match d.conv.scaleOf with
      | some s => s != 0
      | none => true))

/-- Decidable form of `WFintOn R (· ∈ L)`.  A canonical name is looked up once: `resolve` would
    scan the table a second time, for the name of what it found (for a spelling in the table it returns
    `(d.name, R.units.find? d.name)`). -/
def wfintOnB (R : Registry) (L : List String) : Bool :=
  let ub := bucketsBy (·.1) 16 R.units
  let lb := bucketsBy id 16 L
  let find (k : String) := Dict.find? (bucketOf ub k) k
  let ok := defOK fun k => (bucketOf lb k).contains k
  L.all fun k =>
    match find k with
    | some d => if d.name = k then ok d else
      match find d.name with
      | some d' => ok d'
      | none => true
    | none =>
      match R.resolve k with
      | .ok (_, some d) => ok d
      | _ => true

theorem wfintOn_of_B {R : Registry} {L : List String} (h : wfintOnB R L = true) :
    R.WFintOn (fun k => k ∈ L) := by
  simp only [wfintOnB, find?_bucketOf (by decide : 0 < 16), contains_bucketOf (by decide : 0 < 16)] at h
  intro k hk key d hr hb
  have hd : defOK L.contains d = true := by
    have := List.all_eq_true.mp h k hk
    by_cases hdl : k = "dimensionless"
    · simp [hdl, Registry.resolve] at hr
    · cases hf : R.units.find? k with
      | none => simpa only [hf, hr] using this
      | some d0 =>
        rw [Registry.resolve, if_neg hdl, hf] at hr
        injection hr with hr
        injection hr with _ hr
        simp only [hf] at this
        split at this
        · next he => rw [he, hf, Option.some.injEq] at hr; exact hr ▸ this
        · simpa only [hr] using this
  simp only [defOK, hb, Bool.false_or, Bool.and_eq_true, List.all_eq_true, beq_iff_eq,
    List.contains_iff_mem] at hd
  refine ⟨fun p hp => (hd.1 p hp).1, fun k' hk' => ?_, fun s hs => by simpa [hs] using hd.2⟩
  obtain ⟨p, hp, rfl⟩ := List.mem_map.mp hk'
  exact (hd.1 p hp).2

/-- The bundled registry satisfies the well-formedness hypothesis on `Gen.exactNames`, a reference-closed subset of
    the exact names (those reached from the standards table, capped in number); on every exact name:
    `C02_default_wfint_all` (`Props/C02All.lean`). -/
theorem C02_default_wfint : Gen.defaultRegistry.WFintOn (fun k => k ∈ Gen.exactNames) :=
  wfintOn_of_B (by decide +kernel)

-- non-vacuity (1 mile → foot is exactly 5280, through `C02_factor`): `Proofs/QtyExamples.lean`

end Pint.Props.C02
