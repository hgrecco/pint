/-
  C19 — measurements carry uncertainty consistently through conversion and arithmetic.

  Model: `PintModel/Model/Measure.lean` : `mk` (= `Measurement.__new__`), accessors, `plusMinus`,
  `convertAffine` (conversion of an uncertain magnitude through x ↦ a·x + b), `uncTokens`
  (= `uncertainty_tokenizer` on Python's token stream), `parenStd` (digit alignment of `n(s)`).
  The unit conversion `toUnits` is a parameter (C02/C06 say what it returns); first-order error
  propagation in arithmetic is the `uncertainties` package (checked numerically by the harness).
-/
import PintModel.Model.Measure
import PintModel.Proofs.MeasureLemmas

namespace Pint.Props.C19
open Pint Pint.Meas Pint.Eval

variable (toUnits : Rat → UC → UC → Except Err Rat)

/-- a measurement built from a value and a non-negative absolute error reports them back -/
theorem C19_accessors (n s : Rat) (u : UC) (h : ¬ s < 0) :
    ∃ m, mk toUnits (.num n) (some (.num s)) (some u) = .ok m ∧
      value m = ⟨n, u⟩ ∧ error m = ⟨s, u⟩ ∧ (n ≠ 0 → rel m = .ok (absR (s / n))) := by
  refine ⟨⟨n, s, u⟩, by simp [mk, h], rfl, rfl, ?_⟩
  intro hn; simp [rel, hn]

theorem C19_negative_rejected (n s : Rat) (u : UC) (h : s < 0) :
    mk toUnits (.num n) (some (.num s)) (some u) = .error .value := by
  simp [mk, h]

/-- every constructor form builds the same measurement: quantity pair (error converted to the value's
    units), quantity + number, ufloat + unit, plus_minus absolute / relative / quantity -/
theorem C19_forms_agree (n se s : Rat) (u eu : UC) (hc : toUnits se eu u = .ok s) (x : Rat) :
    mk toUnits (.q n u) (some (.q se eu)) none = mk toUnits (.num n) (some (.num s)) (some u) ∧
    mk toUnits (.q n u) (some (.num s)) none = mk toUnits (.num n) (some (.num s)) (some u) ∧
    mk toUnits (.ufl n s) (some (.q x u)) none = .ok ⟨n, s, u⟩ ∧
    plusMinus toUnits ⟨n, u⟩ (.num s) false = mk toUnits (.num n) (some (.num s)) (some u) ∧
    plusMinus toUnits ⟨n, u⟩ (.q se eu) false = mk toUnits (.num n) (some (.num s)) (some u) :=
  ⟨by simp [mk, hc], by simp [mk], by simp [mk], by simp [plusMinus], by simp [plusMinus, hc]⟩

theorem C19_relative_form (n r : Rat) (u : UC) :
    plusMinus toUnits ⟨n, u⟩ (.num r) true = mk toUnits (.num n) (some (.num (r * absR n))) (some u) := by
  simp [plusMinus]

theorem C19_incompatible_error (n se : Rat) (u eu : UC) (e : Err) (hc : toUnits se eu u = .error e) :
    mk toUnits (.q n u) (some (.q se eu)) none = .error e := by
  simp [mk, hc]

theorem C19_relative_quantity_refused (n se : Rat) (u eu : UC) :
    plusMinus toUnits ⟨n, u⟩ (.q se eu) true = .error .value := by
  simp [plusMinus]

/-- the nominal value converts like a plain quantity, the standard deviation is scaled by the slope only -/
theorem C19_convert (m : M) (a b : Rat) (dst : UC) :
    value (convertAffine m a b dst) = ⟨a * m.nominal + b, dst⟩ ∧
    error (convertAffine m a b dst) = ⟨absR a * m.std, dst⟩ ∧
    error (convertAffine m a b dst) = error (convertAffine m a 0 dst) := ⟨rfl, rfl, rfl⟩

/-- so the relative error is unchanged under a multiplicative conversion -/
theorem C19_rel_invariant (m : M) (a : Rat) (dst : UC) (ha : a ≠ 0) (hn : m.nominal ≠ 0) :
    rel (convertAffine m a 0 dst) = rel m := by
  have h0 : a * m.nominal ≠ 0 := by
    intro h; rcases Rat.mul_eq_zero.mp h with h | h <;> contradiction
  have h1 : absR a ≠ 0 := fun h => ha (absR_eq_zero h)
  simp only [rel, convertAffine, Rat.add_zero, if_neg h0, if_neg hn]
  congr 1
  rw [Rat.div_def, Rat.div_def, absR_mul, absR_mul, absR_mul, absR_inv, absR_inv, absR_absR, absR_mul, Rat.inv_mul_rev]
  have : absR a * absR m.std * ((absR m.nominal)⁻¹ * (absR a)⁻¹) = (absR a * (absR a)⁻¹) * (absR m.std * (absR m.nominal)⁻¹) := by
    grind
  rw [this, Rat.mul_inv_cancel _ h1, Rat.one_mul]

example : (rel (convertAffine ⟨5, 1 / 2, [("foot", 1)]⟩ (381 / 1250) 0 [("meter", 1)])).toOption = some (1 / 10)
    ∧ (rel ⟨5, 1 / 2, [("foot", 1)]⟩).toOption = some (1 / 10) := by
  decide +kernel

theorem C19_tokens_paren (fuel : Nat) (n s : Token) (rest : List Token)
    (hn : n.kind = .number) (hs : s.kind = .number) (hm : n.text ≠ "-") (he : possibleE rest = .ok none) :
    uncTokens (fuel + 1) (⟨.op, "("⟩ :: n :: ⟨.op, "+"⟩ :: ⟨.op, "/"⟩ :: ⟨.op, "-"⟩ :: s :: ⟨.op, ")"⟩ :: rest) =
      (match uncTokens fuel rest with | .ok r => .ok ([n, pmOp, s] ++ r) | .error e => .error e) := by
  rw [uncTokens]
  simp [hm, isNumOrNan_of hn, isNumOrNan_of hs, he]
  cases uncTokens fuel rest <;> rfl

theorem C19_tokens_paren_exponent (fuel : Nat) (n s : Token) (rest : List Token) (e : String) (k : Nat)
    (hn : n.kind = .number) (hs : s.kind = .number) (hm : n.text ≠ "-") (he : possibleE rest = .ok (some (e, k))) :
    uncTokens (fuel + 1) (⟨.op, "("⟩ :: n :: ⟨.op, "+"⟩ :: ⟨.op, "/"⟩ :: ⟨.op, "-"⟩ :: s :: ⟨.op, ")"⟩ :: rest) =
      (match uncTokens fuel (rest.drop k) with | .ok r => .ok ([applyE n e, pmOp, applyE s e] ++ r) | .error e => .error e) := by
  rw [uncTokens]
  simp [hm, isNumOrNan_of hn, isNumOrNan_of hs, he, Nat.add_comm 6 k]
  cases uncTokens fuel (List.drop k rest) <;> rfl

theorem C19_tokens_paren_minus (fuel : Nat) (n s : Token) (rest : List Token)
    (hn : n.kind = .number) (hs : s.kind = .number) (he : possibleE rest = .ok none) :
    uncTokens (fuel + 1) (⟨.op, "("⟩ :: ⟨.op, "-"⟩ :: n :: ⟨.op, "+"⟩ :: ⟨.op, "/"⟩ :: ⟨.op, "-"⟩ :: s :: ⟨.op, ")"⟩ :: rest) =
      (match uncTokens fuel rest with | .ok r => .ok ([⟨.op, "-"⟩, n, pmOp, s] ++ r) | .error e => .error e) := by
  rw [uncTokens]
  simp [isNumOrNan_of hn, isNumOrNan_of hs, he]
  cases uncTokens fuel rest <;> rfl

theorem C19_tokens_nparen (fuel : Nat) (n s : Token) (rest : List Token)
    (hn : n.kind = .number) (hs : s.kind = .number) (h1 : n.text ≠ "+") (h2 : n.text ≠ "(")
    (he : possibleE rest = .ok none) :
    uncTokens (fuel + 1) (n :: ⟨.op, "("⟩ :: s :: ⟨.op, ")"⟩ :: rest) =
      (match uncTokens fuel rest with | .ok r => .ok ([n, pmOp, ⟨s.kind, parenStd n.text s.text⟩] ++ r) | .error e => .error e) := by
  rw [uncTokens]
  simp [h1, h2, hn, hs, he]
  cases uncTokens fuel rest <;> rfl

theorem C19_tokens_pm (fuel : Nat) (rest : List Token) :
    uncTokens (fuel + 1) (⟨.op, "+"⟩ :: ⟨.op, "/"⟩ :: ⟨.op, "-"⟩ :: rest) =
      (match uncTokens fuel rest with | .ok r => .ok (pmOp :: r) | .error e => .error e) := by
  rw [uncTokens]
  simp
  cases uncTokens fuel rest <;> rfl

theorem C19_tokens_other (fuel : Nat) (t : Token) (rest : List Token)
    (h1 : t.text ≠ "+") (h2 : t.text ≠ "(") (h3 : t.kind ≠ .number) :
    uncTokens (fuel + 1) (t :: rest) =
      (match uncTokens fuel rest with | .ok r => .ok (t :: r) | .error e => .error e) := by
  rw [uncTokens]
  simp [h1, h2, h3]
  cases uncTokens fuel rest <;> rfl

/-- a notation at the end of the input has no exponent (F14) -/
theorem C19_end_of_input (t : Token) (rest : List Token) (h : t.text = "") : possibleE (t :: rest) = .ok none := by
  unfold possibleE; simp [h]

/-- `n(s)` : the digits in parentheses are an uncertainty in the last digits of the mantissa of n (F28) -/
theorem C19_paren_digits (nominal std : String) (h : std.toList.contains '.' = false) :
    (parenMant nominal std).toList.filter (· != '.') = rjustZero std.toList (decimalsOf nominal + 1) := by
  unfold parenMant
  simp only [h, Bool.false_eq_true, if_false]
  split
  · rw [String.toList_ofList]; exact rjustZero_filter _ _ h
  · rw [String.toList_ofList, List.filter_append, List.filter_append,
      show List.filter (fun x => x != '.') ['.'] = [] from by decide, List.append_nil,
      ← List.filter_append, List.take_append_drop]
    exact rjustZero_filter _ _ h

theorem C19_paren_point (nominal std : String) (h : std.toList.contains '.' = false) (hd : decimalsOf nominal ≠ 0) :
    ∃ ip fp, (parenMant nominal std).toList = ip ++ ['.'] ++ fp ∧ fp.length = decimalsOf nominal ∧ ip ≠ [] ∧
      ip ++ fp = rjustZero std.toList (decimalsOf nominal + 1) := by
  have hl := rjustZero_length_ge std.toList (decimalsOf nominal + 1)
  unfold parenMant
  simp only [h, Bool.false_eq_true, if_false, if_neg hd, String.toList_ofList]
  generalize rjustZero std.toList (decimalsOf nominal + 1) = digits at hl ⊢
  refine ⟨_, _, rfl, ?_, ?_, List.take_append_drop _ _⟩
  · rw [List.length_drop]; omega
  · intro h0
    have := congrArg List.length h0
    rw [List.length_take] at this
    simp at this; omega

/-- ... and they carry the exponent of n (F70): without an exponent the text is the aligned digits, with one the
    same exponent is appended; an uncertainty written with a decimal point is taken as it stands -/
theorem C19_paren_exponent (nominal std : String) (h : std.toList.contains '.' = false) :
    parenStd nominal std =
      (if exponentOf nominal == "" then parenMant nominal std else parenMant nominal std ++ "e" ++ exponentOf nominal) := by
  unfold parenStd
  simp only [h, Bool.false_eq_true, if_false]

theorem C19_paren_explicit (nominal std : String) (h : std.toList.contains '.' = true) : parenStd nominal std = std := by
  unfold parenStd
  simp only [h, if_true]

example : parenStd "2.00" "3" = "0.03" ∧ parenStd "12.3" "45" = "4.5" ∧ parenStd "2" "3" = "3" ∧ parenStd "2.0" "3" = "0.3"
    ∧ parenStd "1.5" "1.2" = "1.2" ∧ parenStd "2.000" "30" = "0.030" ∧ parenStd "1.234e-3" "56" = "0.056e-3"
    ∧ parenStd "1.50E3" "2" = "0.02e3" ∧ parenStd "1e3" "2" = "2e3" := by decide +kernel

/-- whole notations, through the tokenizer -/
example : (uncTokens 20 [⟨.op, "("⟩, ⟨.number, "2.0"⟩, ⟨.op, "+"⟩, ⟨.op, "/"⟩, ⟨.op, "-"⟩, ⟨.number, "0.3"⟩, ⟨.op, ")"⟩,
      ⟨.name, "e3"⟩, ⟨.name, "m"⟩, ⟨.other, ""⟩, ⟨.endmarker, ""⟩]).toOption
    = some [⟨.number, "2.0e3"⟩, pmOp, ⟨.number, "0.3e3"⟩, ⟨.name, "m"⟩, ⟨.other, ""⟩, ⟨.endmarker, ""⟩] := by decide +kernel

example : (uncTokens 20 [⟨.number, "2.00"⟩, ⟨.op, "("⟩, ⟨.number, "3"⟩, ⟨.op, ")"⟩, ⟨.name, "E"⟩, ⟨.op, "+"⟩, ⟨.number, "2"⟩,
      ⟨.other, ""⟩, ⟨.endmarker, ""⟩]).toOption
    = some [⟨.number, "2.00e+2"⟩, pmOp, ⟨.number, "0.03e+2"⟩, ⟨.other, ""⟩, ⟨.endmarker, ""⟩] := by decide +kernel

end Pint.Props.C19
