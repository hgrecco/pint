/-
  C14 — systems and groups select base units and members exactly as declared.

  Model: `Model/GroupSys.lean`.
-/
import PintModel.Model.GroupSys
import PintModel.Proofs.RuleInversion
import PintModel.Gen.SystemRules
import PintModel.Gen.DefaultRegistry

namespace Pint.Props.C14
open Pint Pint.GS

theorem mem_dedup {l : List String} {x : String} : x ∈ dedup l ↔ x ∈ l := by
  have key : ∀ (l acc : List String),
      x ∈ l.foldl (fun acc y => if acc.contains y then acc else acc ++ [y]) acc ↔ x ∈ acc ∨ x ∈ l := by
    intro l
    induction l with
    | nil => simp
    | cons y t ih =>
      intro acc
      -- a `y` that is skipped is in `acc` already
      have step : x ∈ (if acc.contains y then acc else acc ++ [y]) ↔ x ∈ acc ∨ x = y := by
        split
        · next hy => exact ⟨Or.inl, fun h => h.elim id fun e => e ▸ List.contains_iff_mem.mp hy⟩
        · simp
      rw [List.foldl_cons, ih, step, List.mem_cons, or_assoc]
  simpa [dedup] using key l []

theorem C14_members_unfold (st : State) (fuel : Nat) (g : String) (grp : Group) (h : findGroup st g = some grp) (x : String) :
    x ∈ members st (fuel + 1) g ↔ x ∈ grp.units ∨ ∃ u ∈ grp.used, x ∈ members st fuel u := by
  simp only [members, h, mem_dedup, List.mem_append, List.mem_flatMap]

/-- `Group.members` contains the group's own `_unit_names` -/
theorem C14_own_units_members (st : State) (g : String) (grp : Group) (h : findGroup st g = some grp)
    (x : String) (hx : x ∈ grp.units) : x ∈ groupMembers st g := by
  unfold groupMembers
  exact (C14_members_unfold st _ g grp h x).mpr (Or.inl hx)

/-- `System.members` are the members of the groups the system uses -/
theorem C14_system_members (st : State) (s : System) (x : String) :
    x ∈ systemMembers st s ↔ ∃ g ∈ s.used, x ∈ groupMembers st g := by
  simp only [systemMembers, mem_dedup, List.mem_flatMap]

/-- `get_compatible_units` restricted to a system (next theorem: to a group) returns exactly the same-dimension
    units among its members -/
theorem C14_compat_system (st : State) (eqs : List String) (n : String) (s : System)
    (h : findSystem st n = some s) (x : String) :
    ∀ r, compatibleUnits st eqs (some n) = .ok r → (x ∈ r ↔ x ∈ eqs ∧ x ∈ systemMembers st s) := by
  intro r hr
  unfold compatibleUnits at hr
  simp only [h, Except.ok.injEq] at hr
  subst hr
  simp [List.mem_filter]

theorem C14_compat_group (st : State) (eqs : List String) (n : String) (g : Group)
    (hs : findSystem st n = none) (h : findGroup st n = some g) (x : String) :
    ∀ r, compatibleUnits st eqs (some n) = .ok r → (x ∈ r ↔ x ∈ eqs ∧ x ∈ groupMembers st n) := by
  intro r hr
  unfold compatibleUnits at hr
  simp only [hs, h, Except.ok.injEq] at hr
  subst hr
  simp [List.mem_filter]

/-- with no system, base units are root units -/
theorem C14_no_system (R : Registry) (st : State) (u : UC) (h : st.defaultSystem = none) :
    getBaseUnits R st u none = R.getRootUnits u := by
  unfold getBaseUnits
  simp only [h]
  cases R.getRootUnits u with
  | error e => rfl
  | ok p => rfl

/-- changing the default system takes effect immediately: the answer is that of the explicit system -/
theorem C14_default_system_immediate (R : Registry) (st : State) (u : UC) (s : String) :
    getBaseUnits R { st with defaultSystem := some s } u none = getBaseUnits R st u (some s) := by
  unfold getBaseUnits
  simp only [findSystem]

/-- the cycle check of `add_groups`: a group that (transitively) uses `name` cannot be used by it -/
theorem C14_cycle_rejected (st : State) (name : String) (units : List String) (u : String) (rest : List String)
    (hnew : findGroup st name = none) :
    let g : Group := { name := name, units := dedup units }
    let st1 : State := { st with groups := (st.groups.map fun x => if x.name == "root" then { x with used := dedup (x.used ++ [name]) } else x) ++ [g] }
    (findGroup st1 u).isSome → usesGroup st1 (st1.groups.length + 1) u name = true →
    addGroup st name units (u :: rest) = .error .value := by
  intro g st1 hu hc
  obtain ⟨grp, hf⟩ := Option.isSome_iff_exists.mp hu
  unfold addGroup
  rw [hnew]
  show addGroup.go name st1 (u :: rest) = _
  unfold addGroup.go
  rw [hf]
  simp only [hc, Bool.or_true, if_true]

theorem findGroup_new (st : State) (name : String) (g : Group) (hg : g.name = name)
    (f : Group → Group) (hf : ∀ x, (f x).name = x.name) (hnew : findGroup st name = none) :
    findGroup { st with groups := st.groups.map f ++ [g] } name = some g := by
  unfold findGroup at hnew ⊢
  rw [List.find?_append, List.find?_map]
  have : (fun x : Group => x.name == name) ∘ f = fun x => x.name == name := by
    funext x; simp [hf]
  simp [this, hnew, hg]

theorem self_loop_rejected (st : State) (name : String) (units : List String) (rest : List String)
    (hnew : findGroup st name = none) :
    addGroup st name units (name :: rest) = .error .value := by
  unfold addGroup
  rw [hnew]
  show addGroup.go name _ (name :: rest) = _
  unfold addGroup.go
  rw [findGroup_new st name _ rfl _ (fun x => by split <;> rfl) hnew]
  simp

/-- (F11 repair) a group cannot use itself. The second disjunct does not occur: `self_loop_rejected`. -/
theorem C14_self_loop_rejected (st : State) (name : String) (units : List String) (rest : List String)
    (hnew : findGroup st name = none) :
    addGroup st name units (name :: rest) = .error .value ∨ addGroup st name units (name :: rest) = .error .key :=
  Or.inl (self_loop_rejected st name units rest hnew)

/-- `ureg.sys.<system>.<item>` is the system's variant of the name whenever the registry resolves `<system>_<item>` … -/
theorem C14_system_attr_variant (R R' : Registry) (sys item n : String)
    (h : R.getName (sys ++ "_" ++ item) = .ok (n, R')) : GS.systemAttr R sys item = .ok n := by
  unfold GS.systemAttr; rw [h]

/-- … and the plain unit otherwise -/
theorem C14_system_attr_plain (R : Registry) (sys item : String) (e : Err)
    (h : R.getName (sys ++ "_" ++ item) = .error e) :
    GS.systemAttr R sys item = (match R.getName item with | .ok (n, _) => .ok n | .error e => .error e) := by
  unfold GS.systemAttr; rw [h]; rfl

example : (GS.systemAttr Gen.defaultRegistry "imperial" "pint").toOption = some "imperial_pint"
    ∧ (GS.systemAttr Gen.defaultRegistry "imperial" "floz").toOption = some "imperial_fluid_ounce"
    ∧ (GS.systemAttr Gen.defaultRegistry "US" "meter").toOption = some "meter" := by decide +kernel

/-- long form `new : old`: the expression `systemRule` writes for `old` (the new unit to the power 1/a and the other
    root units of its expansion to the powers -e/a, a being the exponent of `old` there) has, root unit by root
    unit, exactly the exponents of `old`. The pinned commit of pint wrote -1/e (finding F37, repaired); with that
    formula the statement is false for `g_0 : meter`. -/
theorem C14_rule_inversion_sound {R : Registry} {new old o : String} {repl : UC}
    (h : GS.systemRule R (new, some old) = .ok (o, repl)) :
    ∃ exp, R.getRootUnitsOnly [(new, 1)] = .ok exp ∧ o = old ∧
      ((exp.map (·.1)).Nodup → exp.get old ≠ 0 → new ∉ exp.map (·.1) →
        ∀ k, GS.expoIn repl new exp k = if k = old then 1 else 0) := by
  obtain ⟨exp, he, ho, hr, _⟩ := GS.systemRule_long h
  exact ⟨exp, he, ho, fun hn ha hnew k => by rw [hr]; exact GS.invertLong_sound exp new old hn ha hnew k⟩

/-- short form `new`: the new unit is a power of one root unit, which is written as the inverse power of the new unit -/
theorem C14_rule_short_sound {R : Registry} {new o : String} {repl : UC}
    (h : GS.systemRule R (new, none) = .ok (o, repl)) (hne : new ≠ o) :
    ∃ value, R.getRootUnitsOnly [(new, 1)] = .ok [(o, value)] ∧
      ∀ k, GS.expoIn repl new [(o, value)] k = if k = o then 1 else 0 := by
  obtain ⟨value, he, hv, hr⟩ := GS.systemRule_short h
  exact ⟨value, he, fun k => by rw [hr]; exact GS.invertShort_sound new o value hv hne k⟩

/-- the formulas of the model are the formulas of the source: `Gen/SystemRules.lean` is translated from
    `System.from_definition` on every run (the three exponent expressions and the filter of the comprehension) -/
theorem C14_rule_formulas_from_source (exp : UC) (new old : String) :
    Gen.SystemRules.problems = [] ∧ Gen.SystemRules.longFilter = "KEY != old_unit" ∧
    GS.invertLong exp new old =
      ((exp.filter (fun p => p.1 != old)).map fun p => (p.1, Gen.SystemRules.longOther p.2 (exp.get old)))
        ++ [(new, Gen.SystemRules.longNew (exp.get old))] ∧
    (∀ value : Rat, Gen.SystemRules.shortNew value = 1 / value) := by
  refine ⟨by decide, by decide, ?_, fun _ => rfl⟩
  simp only [GS.invertLong, Gen.SystemRules.longOther, Gen.SystemRules.longNew]

/-- non-vacuity on the bundled registry: `g_0 : meter` gives meter = g_0 * second ** 2 -/
example : (GS.systemRule Gen.defaultRegistry ("standard_gravity", some "meter")).toOption
    = some ("meter", [("second", 2), ("standard_gravity", 1)]) := by decide +kernel

end Pint.Props.C14
