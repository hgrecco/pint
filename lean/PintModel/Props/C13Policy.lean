/-
  C13 — the memo architecture pint implements, read from the source, follows a covering policy.

  `Gen/CachePolicy.lean` (regenerated from `pint/facets/{plain,context,system}/registry.py` on every run) says which memo
  tables a definition, a change of the context stack and a change of the default system empty, and which tables are kept
  per context stack.  `dependsOn` is the hand-written specification of what each table's answers depend on.  The theorems:
  the source's policy covers every dependency, and therefore (`run_transparent`) every history of queries interleaved with
  definitions, context switches and default-system changes is answered as if there were no table at all.
-/
import PintModel.Props.C13
import PintModel.Gen.CachePolicy
import PintModel.Proofs.CachePolicyLemmas

namespace Pint.Props.C13Policy
open Pint.CachePolicy

/-- specification (hand-written): the components of the declarative state the answers held in each memo table depend on.
    Parsed names and dimensionalities do not depend on the context stack *because* a context can only redefine an existing
    unit with the same dimensionality — the guard in `_redefine`, read from the source (`redefineKeepsDim`). -/
def dependsOn : Comp → Table → Bool
  | .defs, .dimEquiv => false
  | .defs, _ => true
  | .ctx, .rootUnits => true
  | .ctx, .convFactor => true
  | .ctx, .baseUnits => true
  | .ctx, .dimensionality => !Pint.Gen.CachePolicy.redefineKeepsDim
  | .sys, .baseUnits => true
  | _, _ => false

/-- the translator recognised every construct it looked for -/
theorem C13_policy_recognised : Pint.Gen.CachePolicy.problems = [] := by decide

/-- **the policy of the source covers every dependency** (a table whose answers depend on a component is emptied by a
    change of that component or kept per value of it) -/
theorem C13_source_policy_covers : Covers Pint.Gen.CachePolicy.policy dependsOn :=
  covers_of_coversB (by decide)

/-- **any history**: queries of any table interleaved with definitions, context switches and default-system changes, run
    through the memo tables under the source's policy, are answered like the memo-free specification -/
theorem C13_source_policy_transparent {κ ν : Type} [DecidableEq κ] (spec : Table → St → κ → ν)
    (hl : Local spec dependsOn) (s : St) (ops : List (Op κ)) :
    run Pint.Gen.CachePolicy.policy spec s (fun _ => []) ops = runSpec spec s ops :=
  run_transparent C13_source_policy_covers hl s _ (inv_empty _ _ _ _) ops

/-- the same from any reachable table contents (e.g. the tables `_build_cache` pre-fills) -/
theorem C13_source_policy_transparent_from {κ ν : Type} [DecidableEq κ] (spec : Table → St → κ → ν)
    (hl : Local spec dependsOn) (s : St) (m : Memos κ ν) (hi : Inv Pint.Gen.CachePolicy.policy spec dependsOn s m)
    (ops : List (Op κ)) : run Pint.Gen.CachePolicy.policy spec s m ops = runSpec spec s ops :=
  run_transparent C13_source_policy_covers hl s m hi ops

/-- a specification that uses exactly its dependencies: the hypotheses are satisfiable, non-trivially -/
def demoSpec (t : Table) (s : St) (k : Nat) : List Nat := k :: (allComps.filter (dependsOn · t)).map s

theorem C13_demo_local : Local demoSpec dependsOn := by
  intro t s s' h k
  unfold demoSpec
  congr 1
  apply List.map_congr_left
  intro c hc
  exact h c (List.mem_filter.mp hc).2

/-- a concrete history through the source's policy (base units asked, system switched, asked again, context entered,
    unit defined, asked again): a test of the executable model, not a property -/
example : run Pint.Gen.CachePolicy.policy demoSpec (fun _ => 0) (fun _ => [])
      [.query .baseUnits 7, .change .sys 1, .query .baseUnits 7, .change .ctx 5, .query .rootUnits 7, .query .baseUnits 7,
       .change .defs 1, .query .rootUnits 7, .change .ctx 0, .query .rootUnits 7, .query .baseUnits 7]
    = runSpec demoSpec (fun _ => 0)
      [.query .baseUnits 7, .change .sys 1, .query .baseUnits 7, .change .ctx 5, .query .rootUnits 7, .query .baseUnits 7,
       .change .defs 1, .query .rootUnits 7, .change .ctx 0, .query .rootUnits 7, .query .baseUnits 7] := by decide

/-- **necessity**: a policy that leaves one dependency unanswered serves a stale answer on a three-step history (the shape
    of the findings F8a, F8b, F33 and of the seeded changes that drop a table from `_clear_memos_of`) -/
theorem C13_uncovered_counterexample :
    ∃ (p : Policy) (dep : Comp → Table → Bool) (spec : Table → St → Nat → Nat) (ops : List (Op Nat)),
      Local spec dep ∧ ¬ Covers p dep ∧ run p spec (fun _ => 0) (fun _ => []) ops ≠ runSpec spec (fun _ => 0) ops := by
  refine ⟨⟨fun _ _ => false, fun _ _ => false⟩, fun c t => decide (c = .defs ∧ t = .rootUnits), fun t s _ => if t = .rootUnits then s .defs else 0,
    [.query .rootUnits 0, .change .defs 1, .query .rootUnits 0], ?_, ?_, by decide⟩
  · intro t s s' h k
    dsimp only
    split
    · next ht => exact h .defs (by simp [ht])
    · rfl
  · intro h
    have := h .defs .rootUnits (by decide)
    simp at this

end Pint.Props.C13Policy
