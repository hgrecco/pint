/-
  C08 — unit names resolve deterministically: exact names first, then prefix+unit+plural.

  Model: `Registry.resolve` / `getName` (`get_name`), `yieldTriplets` / `parseUnitName`
  (`_yield_unit_triplets`, `parse_unit_name`), `prefixedDef`, `parseUnitsLoop`
  (`_parse_units_as_container`).
-/
import PintModel.Model.Registry
import PintModel.Gen.DefaultRegistry
import PintModel.Proofs.ParseNameLemmas

namespace Pint.Props.C08
open Pint Pint.Registry

/-- a defined name, alias or symbol denotes that unit (exact names first) -/
theorem C08_exact_first (R : Registry) {s : String} {d : UnitDef} (cs : Option Bool)
    (hs : s ≠ "dimensionless") (h : R.units.find? s = some d) :
    R.resolve s cs = .ok (d.name, R.units.find? d.name) := by
  unfold resolve; simp [hs, h]

/-- the stateful `get_name` and the pure reading agree on the name; an exact spelling registers nothing -/
theorem C08_getName_exact (R : Registry) {s : String} {d : UnitDef} (cs : Option Bool)
    (hs : s ≠ "dimensionless") (h : R.units.find? s = some d) :
    R.getName s cs = .ok (d.name, R) := by
  unfold getName; simp [hs, h]

/-- strings with no reading raise `UndefinedUnitError` -/
theorem C08_undefined (R : Registry) {s : String} (cs : Option Bool)
    (hs : s ≠ "dimensionless") (h : R.units.find? s = none) (hp : R.parseUnitName s cs = []) :
    R.resolve s cs = .error .undefined ∧ R.getName s cs = .error .undefined := by
  unfold resolve getName; simp [hs, h, hp]

/-- `get_name` and the pure reading always return the same name or the same error -/
theorem C08_getName_resolve (R : Registry) (s : String) (cs : Option Bool) :
    (R.getName s cs).toOption.map (·.1) = (R.resolve s cs).toOption.map (·.1) ∧
    (∀ e, R.getName s cs = .error e ↔ R.resolve s cs = .error e) := by
  rw [Proofs.ParseName.resolve_eq_getName]
  cases R.getName s cs <;> simp [Except.toOption, Except.map]

/-- what `get_name` registers for a prefixed unit: the prefix factor once, referring to the unit once -/
theorem C08_prefix_once (R : Registry) {p u : String} {cs : Option Bool} {d : UnitDef}
    (h : R.prefixedDef p u cs = .ok d) :
    ∃ pd ud, R.prefixes.find? p = some pd ∧ R.units.find? u = some ud ∧ ud.isMult = true ∧
      d.name = p ++ u ∧ d.conv = .scale pd.value ∧ d.ref = [(u, 1)] ∧ d.isBase = false := by
  grind [prefixedDef]

/-- offset (non-multiplicative) units cannot be prefixed -/
theorem C08_offset_not_prefixable (R : Registry) {p u : String} {cs : Option Bool} {ud : UnitDef} {pd : PrefixDef}
    (hu : R.units.find? u = some ud) (hp : R.prefixes.find? p = some pd) (hm : ud.isMult = false) :
    R.prefixedDef p u cs = .error .offsetCalc := by
  unfold prefixedDef; simp [hu, hp, hm]

/-- one step of `_parse_units_as_container`: in a compound expression (or with an exponent
    other than 1) a non-multiplicative unit is read as its `delta_` counterpart, unless
    `as_delta` is off -/
theorem C08_delta_step (R R' : Registry) (asDelta many : Bool) (cs : Option Bool)
    (name : String) (value : Rat) (t ret : UC) (cname : String) (d : UnitDef)
    (hg : R.getName name cs = .ok (cname, R')) (hne : cname ≠ "")
    (hd : R'.units.find? cname = some d) :
    let key := if asDelta && (many || value ≠ 1) && !d.isMult then "delta_" ++ cname else cname
    (∀ ret', ret.add key value = some ret' →
        parseUnitsLoop asDelta many cs ((name, value) :: t) R ret = parseUnitsLoop asDelta many cs t R' ret') ∧
    (ret.add key value = none →
        parseUnitsLoop asDelta many cs ((name, value) :: t) R ret = .error .key) := by
  intro key
  -- the model nests the two tests that `key` joins
  have hkey : (if asDelta && (many || value ≠ 1) then
        (if !d.isMult then "delta_" ++ cname else cname) else cname) = key := by
    simp only [key]
    cases asDelta && (many || decide (value ≠ 1)) <;> rfl
  simp only [parseUnitsLoop, hg, hne, if_false, hd, hkey]
  exact ⟨fun _ hr => by rw [hr], fun hr => by rw [hr]⟩

open Pint.Proofs.ParseName in
/-- **soundness of a reading**: a candidate (prefix, unit, suffix) re-spells the input as a registered prefix
    spelling ++ a registered unit spelling ++ a registered suffix, with the single-letter-stem guard and the
    "units registered on the fly are not stems" guard (the registry has no unit spelled "") -/
theorem C08_reading_sound {R : Registry} {s p u x : String} (hempty : R.units.find? "" = none)
    (h : (p, u, x) ∈ R.yieldTriplets s true) :
    ∃ (pk : String) (pd : PrefixDef) (uk : String) (ud : UnitDef) (sk : String),
      (pk, pd) ∈ R.prefixes ∧ pd.name = p ∧
      R.units.find? uk = some ud ∧ (uk, ud) ∈ R.units ∧ ud.name = u ∧
      (sk, x) ∈ R.suffixes ∧
      s = pk ++ uk ++ sk ∧
      s.toList = pk.toList ++ uk.toList ++ sk.toList ∧
      (sk ≠ "" → uk.length ≠ 1) ∧
      (pk ≠ "" → R.prefixed.contains uk = false) := by
  obtain ⟨pk, pd, uk, sk, x', c, hr⟩ := mem_yieldTriplets.mp h
  obtain ⟨hg, ud, hd, ht⟩ := mem_stemReadings_true.mp hr
  cases ht
  -- the cut is no overlap of prefix and suffix: its stem would be "", which is no unit key
  have hcat : s = pk ++ uk ++ sk := c.spec.resolve_right fun ⟨e, _⟩ => by simp [e, hempty] at hd
  exact ⟨pk, pd, uk, ud, sk, c.pfx, rfl, hd, Dict.mem_of_find? hd, rfl, c.sfx, hcat,
    by rw [← String.toList_append, ← String.toList_append, ← hcat], c.guard, hg⟩

open Pint.Proofs.ParseName in
/-- **completeness**: every such decomposition of the input is among the candidate readings -/
theorem C08_reading_complete {R : Registry} {s pk uk sk x : String} {pd : PrefixDef} {ud : UnitDef}
    (hp : (pk, pd) ∈ R.prefixes) (hs : (sk, x) ∈ R.suffixes) (hu : R.units.find? uk = some ud)
    (hcat : s = pk ++ uk ++ sk) (hg1 : sk ≠ "" → uk.length ≠ 1)
    (hg2 : pk ≠ "" → R.prefixed.contains uk = false) :
    (pd.name, ud.name, x) ∈ R.yieldTriplets s true :=
  hcat ▸ mem_yieldTriplets.mpr ⟨pk, pd, uk, sk, x, Cut.of_append hp hs hg1,
    mem_stemReadings_true.mpr ⟨hg2, ud, hu, rfl⟩⟩

open Pint.Proofs.ParseName in
/-- de-duplication only removes a plain reading ("", n, "") in favour of a prefixed reading of the same name -/
theorem C08_dedup {n : String} {c : List (String × String × String)} (h : ("", n, "") ∈ c) :
    ("", n, "") ∉ dedupCandidates c ↔ ∃ p u x, (p, u, x) ∈ c ∧ p ≠ "" ∧ p ++ u = n :=
  dedupCandidates_plain_removed_iff h

open Pint.Proofs.ParseName in
theorem C08_dedup_keeps {p u x : String} {c : List (String × String × String)}
    (hne : p ≠ "" ∨ x ≠ "") (h : (p, u, x) ∈ c) : (p, u, x) ∈ dedupCandidates c :=
  dedupCandidates_keeps_of_ne hne h

open Pint.Proofs.ParseName in
/-- `get_name` uses the first reading: deterministic, and it is one of the candidate readings -/
theorem C08_getName_first {R : Registry} {s p u x : String} {cs : Option Bool}
    {rest : List (String × String × String)}
    (hf : R.units.find? s = none) (hs : s ≠ "dimensionless")
    (hp : R.parseUnitName s cs = (p, u, x) :: rest) :
    R.getName s cs =
      if p = "" then .ok (u, R)
      else match R.prefixedDef p u cs with
        | .error e => .error e
        | .ok d => .ok (p ++ u, { R with units := R.units.insert (p ++ u) d,
                                          prefixed := if R.prefixed.contains (p ++ u) then R.prefixed
                                                      else R.prefixed ++ [p ++ u] }) := by
  grind [getName]

/-- the test vectors of this file and of `Props/C08Sym.lean` in one conjunction, of which the
    `example`s are projections: every lookup compares the name with the keys of the bundled table,
    and the kernel reuses what it has computed about those keys only inside one declaration -/
theorem default_vectors :
    ((Gen.defaultRegistry.resolve "km").toOption.map (·.1) = some "kilometer" ∧
     (Gen.defaultRegistry.resolve "inches").toOption.map (·.1) = some "inch" ∧
     (Gen.defaultRegistry.resolve "millikilometer").toOption.map (·.1) = none ∧
     (match Gen.defaultRegistry.resolve "millidegree_Celsius" with
      | .error .offsetCalc => true
      | _ => false) = true ∧
     Gen.defaultRegistry.units.find? "" = none) ∧
    ((Gen.defaultRegistry.getSymbol "milliarcsecond").toOption = some "mas"
     ∧ (Gen.defaultRegistry.getSymbol "kilometer_per_second").toOption = some "kps"
     ∧ (Gen.defaultRegistry.getSymbol "kilometers").toOption = some "km"
     ∧ (Gen.defaultRegistry.getSymbol "kilogram").toOption = some "kg"
     ∧ (Gen.defaultRegistry.getSymbol "ft").toOption = some "ft") := by decide +kernel

set_option maxRecDepth 100000 in
example : (Gen.defaultRegistry.resolve "km").toOption.map (·.1) = some "kilometer" := default_vectors.1.1
set_option maxRecDepth 100000 in
example : (Gen.defaultRegistry.resolve "inches").toOption.map (·.1) = some "inch" := default_vectors.1.2.1
set_option maxRecDepth 100000 in
example : (Gen.defaultRegistry.resolve "millikilometer").toOption.map (·.1) = none := default_vectors.1.2.2.1
set_option maxRecDepth 100000 in
example : (match Gen.defaultRegistry.resolve "millidegree_Celsius" with
    | .error .offsetCalc => true
    | _ => false) = true := default_vectors.1.2.2.2.1

/-- the bundled registry has no unit spelled "" (hypothesis of `C08_reading_sound`) -/
theorem C08_default_no_empty_unit : Gen.defaultRegistry.units.find? "" = none := default_vectors.1.2.2.2.2

end Pint.Props.C08
