/-
  C04 — units form a commutative group under *, /, ** with a canonical representation.
  Property theorems about the model `Pint.UC` (pint/util.py `UnitsContainer`).
-/
import PintModel.Proofs.UCLemmas
import PintModel.Proofs.PiLemmas

namespace Pint.Props.C04
open Pint Pint.UC

/-! No zero-exponent entry and no duplicate key survives any operation: the invariant `Canon`. -/

theorem canon_mul {a : UC} (h : a.Canon) (b : UC) : (a.mul b).Canon := by
  rw [mul_eq_merge]; exact canon_merge 1 h b

theorem canon_div {a : UC} (h : a.Canon) (b : UC) : (a.div b).Canon := by
  rw [div_eq_merge]; exact canon_merge (-1) h b

theorem canon_pow {a : UC} (h : a.Canon) (r : Rat) : (a.pow r).Canon :=
  ⟨List.Nodup.sublist (keys_pow_sublist a r) h.1, noZero_pow a r⟩

theorem canon_inv {a : UC} (h : a.Canon) : a.inv.Canon := canon_pow h (-1)

theorem canon_add {a u : UC} (h : a.Canon) {k : String} {v : Rat} (he : a.add k v = some u) : u.Canon :=
  add_eq_upd he ▸ canon_upd h k _

theorem canon_remove {a u : UC} (h : a.Canon) {ks : List String} (he : a.remove ks = some u) : u.Canon := by
  induction ks generalizing a with
  | nil => cases he; exact h
  | cons k ks ih =>
    rw [remove] at he
    split at he
    · exact ih (canon_del h k) he
    · cases he

theorem canon_rename {a u : UC} (h : a.Canon) {o n : String} (he : a.rename o n = some u) : u.Canon := by
  unfold rename at he
  split at he
  · cases he
  · next v hv =>
    cases he
    exact canon_set (canon_del h o) n (h.2 _ (lookup_mem hv))

/-- the pre-repair `__pow__` (finding F1) did not keep the invariant: `{'m': 1} ** 0 = {'m': 0}` -/
theorem powOld_counterexample : ¬ (UC.powOld [("m", 1)] 0).Canon := by
  intro h
  have := h.2 ("m", 0) (by decide +kernel)
  exact this rfl

theorem exp_mul (a : UC) {b : UC} (hb : b.keys.Nodup) (k : String) :
    (a.mul b).get k = a.get k + b.get k := by
  rw [mul_eq_merge, get_merge 1 a hb, Rat.one_mul]

theorem exp_div (a : UC) {b : UC} (hb : b.keys.Nodup) (k : String) :
    (a.div b).get k = a.get k - b.get k := by
  rw [div_eq_merge, get_merge (-1) a hb, Rat.neg_mul, Rat.one_mul, Rat.sub_eq_add_neg]

theorem exp_pow {a : UC} (h : a.keys.Nodup) (r : Rat) (k : String) :
    (a.pow r).get k = a.get k * r := get_pow h r k

/-! The group laws hold up to `Equiv`, "every unit has the same exponent". -/

theorem mul_comm {a b : UC} (ha : a.Canon) (hb : b.Canon) : Equiv (a.mul b) (b.mul a) := by
  intro k; rw [exp_mul a hb.1, exp_mul b ha.1, Rat.add_comm]

theorem mul_assoc {a b c : UC} (hb : b.Canon) (hc : c.Canon) :
    Equiv ((a.mul b).mul c) (a.mul (b.mul c)) := by
  intro k
  rw [exp_mul _ hc.1, exp_mul _ hb.1, exp_mul _ (canon_mul hb c).1, exp_mul _ hc.1, Rat.add_assoc]

theorem mul_one (a : UC) : a.mul [] = a := rfl

theorem div_self {a : UC} (h : a.Canon) : Equiv (a.div a) [] := by
  intro k; rw [exp_div a h.1]; simp [Rat.sub_self]

theorem mul_div_cancel {a b : UC} (hb : b.Canon) : Equiv ((a.mul b).div b) a := by
  intro k
  rw [exp_div _ hb.1, exp_mul _ hb.1, Rat.add_sub_cancel]

/-- `u ** 0` is literally the empty (dimensionless) container -/
theorem pow_zero (a : UC) : a.pow 0 = [] := by
  unfold pow
  induction a with
  | nil => rfl
  | cons p t ih => simp [Rat.mul_zero]

theorem pow_one {a : UC} (h : a.Canon) : Equiv (a.pow 1) a := by
  intro k; rw [exp_pow h.1, Rat.mul_one]

theorem pow_pow {a : UC} (h : a.Canon) (r s : Rat) : Equiv ((a.pow r).pow s) (a.pow (r * s)) := by
  intro k
  rw [exp_pow (canon_pow h r).1, exp_pow h.1, exp_pow h.1, Rat.mul_assoc]

theorem pow_mul_distrib {a b : UC} (ha : a.Canon) (hb : b.Canon) (r : Rat) :
    Equiv ((a.mul b).pow r) ((a.pow r).mul (b.pow r)) := by
  intro k
  rw [exp_pow (canon_mul ha b).1, exp_mul _ hb.1, exp_mul _ (canon_pow hb r).1, exp_pow ha.1, exp_pow hb.1,
    Rat.add_mul]

/-! On canonical representations `==` and `hash` see exactly the exponents. -/

theorem eq_iff {a b : UC} (ha : a.Canon) (hb : b.Canon) : a.beq b = true ↔ Equiv a b := by
  unfold beq
  simp only [Bool.and_eq_true, List.all_eq_true, beq_iff_eq, lookup_eq_some_iff_mem ha.1,
    lookup_eq_some_iff_mem hb.1, equiv_iff_mem ha hb]
  exact ⟨fun ⟨h1, h2⟩ p => ⟨h1 p, h2 p⟩, fun h => ⟨fun p => (h p).1, fun p => (h p).2⟩⟩

/-- the hash is taken of `frozenset(items)`: equal item sets exactly when exponents agree -/
theorem hash_iff {a b : UC} (ha : a.Canon) (hb : b.Canon) : itemSet a = itemSet b ↔ Equiv a b := by
  rw [equiv_iff_mem ha hb]
  exact ⟨fun h p => iff_of_eq (congrFun h p), fun h => funext fun p => propext (h p)⟩

theorem eq_hash {a b : UC} (ha : a.Canon) (hb : b.Canon) (h : a.beq b = true) : itemSet a = itemSet b :=
  (hash_iff ha hb).mpr ((eq_iff ha hb).mp h)

theorem mul_comm_beq {a b : UC} (ha : a.Canon) (hb : b.Canon) : (a.mul b).beq (b.mul a) = true :=
  (eq_iff (canon_mul ha b) (canon_mul hb a)).mpr (mul_comm ha hb)

theorem mul_assoc_beq {a b c : UC} (ha : a.Canon) (hb : b.Canon) (hc : c.Canon) :
    ((a.mul b).mul c).beq (a.mul (b.mul c)) = true :=
  (eq_iff (canon_mul (canon_mul ha b) c) (canon_mul ha _)).mpr (mul_assoc hb hc)

/-- the dimensionless unit has exactly one canonical representation: the empty container -/
theorem canon_dimensionless {u : UC} (h : u.Canon) (he : Equiv u []) : u = [] := by
  cases u with
  | nil => rfl
  | cons p t =>
    obtain ⟨hg, hz⟩ := (mem_iff_get h (k := p.1) (v := p.2)).mp List.mem_cons_self
    exact absurd (hg.symm.trans (he p.1)) hz

theorem div_self_eq_nil {a : UC} (h : a.Canon) : a.div a = [] :=
  canon_dimensionless (canon_div h a) (div_self h)

/-! The lazily cached hash stays valid: no operation returns an object with a stale hash. -/

theorem hash_cache_inv_hash (o : UCObj) (h : o.Inv) : o.hash.1.Inv ∧ o.hash.2 = o.d := by
  unfold UCObj.hash
  rcases h with h | h
  · simp [h, UCObj.Inv]
  · simp [h, UCObj.Inv]

theorem hash_cache_inv_ops (a b : UCObj) (r : Rat) :
    (a.mul b).Inv ∧ (a.div b).Inv ∧ (a.pow r).Inv ∧ (a.Inv → a.copy.Inv) :=
  ⟨.inl rfl, .inl rfl, .inl rfl, id⟩

theorem hash_cache_inv_cow (a : UCObj) (k k2 : String) (v : Rat) (ks : List String) :
    (∀ u, a.add k v = some u → u.Inv) ∧ (∀ u, a.rename k k2 = some u → u.Inv) ∧
    (∀ u, a.remove ks = some u → u.Inv) := by
  -- all three wrap what the container operation returns in an object with an empty cache
  have fresh (x : Option UC) (u : UCObj)
      (hu : x.map (fun d => ({ d := d, cached := none } : UCObj)) = some u) : u.Inv := by
    obtain ⟨d, -, rfl⟩ := Option.map_eq_some_iff.mp hu
    exact .inl rfl
  exact ⟨fresh _, fresh _, fresh _⟩

/-- soundness of `pi_theorem` (model `Pi.piRows` = `column_echelon_form` + extraction): for every
    matrix of dimension exponents, each returned exponent vector has zero total exponent in
    every dimension.  (That the groups form a *basis* — count = n − rank, independence — is
    checked by the correspondence against an independent exact rank computation: partial.) -/
theorem pi_sound (matrix : Pi.Mat) :
    ∀ v ∈ Pi.piRows matrix, ∀ x ∈ Pi.monomialDims matrix v, x = 0 :=
  Pi.pi_sound' matrix

example : Pi.piRows [[1, 1, 0], [-1, 0, 1]] = [[1, -1, 1]] := by decide +kernel

/-! Non-vacuity: the hypotheses are satisfiable on concrete non-trivial containers. -/

example : UC.Canon [("meter", 1), ("second", -2)] := by
  constructor
  · decide
  · intro p hp; simp at hp; rcases hp with rfl | rfl <;> decide
example : (UC.mul [("meter", 1), ("second", -2)] [("second", 2), ("gram", 1)]) = [("meter", 1), ("gram", 1)] := by
  decide +kernel
example : (UC.pow [("meter", 2), ("second", -1)] (mkRat 1 2)) = [("meter", 1), ("second", mkRat (-1) 2)] := by
  decide +kernel
example : UC.beq [("meter", 1), ("second", -2)] [("second", -2), ("meter", 1)] = true := by decide +kernel

end Pint.Props.C04
