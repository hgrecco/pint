/-
  C10 — definition files mean what they say, independent of order and loading path.

  Model: `Registry.load` / adders (`Model/Load.lean`, `Model/Registry.lean`): every table is an
  insertion-ordered dict built by `Dict.insert`.  The textual line parser is modelled by the
  independent reader (tools/defreader.py) and tied by the correspondence.
-/
import PintModel.Proofs.LoadLemmas

namespace Pint.Props.C10
open Pint

variable {α : Type}

/-- **order independence**: for definitions with pairwise distinct spellings, every lookup in the
    loaded table is the same whatever the order of the lines -/
theorem C10_order_independent {kvs kvs' : List (String × α)} (hn : (kvs.map (·.1)).Nodup)
    (hp : kvs.Perm kvs') (k : String) :
    Dict.find? (kvs.foldl (fun (acc : Dict α) p => Dict.insert acc p.1 p.2) ([] : Dict α)) k =
    Dict.find? (kvs'.foldl (fun (acc : Dict α) p => Dict.insert acc p.1 p.2) ([] : Dict α)) k :=
  LoadLemmas.find?_insertAll_perm (LoadLemmas.keyFunctional_of_nodup hn) hp [] k

/-- the unit table after `_add_unit` holds the definition under each of its spellings
    (name, symbol, aliases) -/
theorem C10_unit_under_every_spelling (R : Registry) (d : UnitDef) (k : String) (hk : k ∈ Registry.unitKeys d) :
    ∃ d', ((Registry.unitKeys d).foldl (fun R k => R.addUnitKey k d) R).units.find? k = some d' ∧ d' = d := by
  refine ⟨d, ?_, rfl⟩
  rw [(LoadLemmas.applies_addUnitKeys d _ R).units]
  -- every pair inserted carries `d`
  exact LoadLemmas.find?_insertAll_of_mem (by grind [LoadLemmas.KeyFunctional]) (List.mem_map_of_mem (f := (·, d)) hk) _

example : Dict.find? ((["b", "a"].map fun k => (k, k.length)).foldl (fun (acc : Dict Nat) p => Dict.insert acc p.1 p.2) []) "a" = some 1 := by
  decide

end Pint.Props.C10
