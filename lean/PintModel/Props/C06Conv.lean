/-
  C06 — the converter classes as they are written: `Gen/Converters.lean` is translated from the source on
  every run (functional and in-place branch of `to_reference` / `from_reference` of `ScaleConverter`,
  `OffsetConverter`, `LogarithmicConverter`; both arms of `if HAS_NUMPY`).  Proved here, for every magnitude,
  every parameter value and EVERY interpretation of `log` / `exp`:

  * each functional branch is the defining map of the property (linear, affine, logarithmic);
  * each in-place branch computes the same value as the functional branch;
  * `to_reference` and `from_reference` are mutually inverse (under exactly the guards the maps need:
    a non-zero scale, a non-zero log factor and base logarithm, and `log ∘ exp = id` / `exp ∘ log = id`
    where they are used);
  * the hand-written converter of the registry model (`Registry.toReference` / `fromReference`) is the
    translated code.
-/
import PintModel.Gen.Converters
import PintModel.Model.Registry
-- `Props.C06` is not used here: the check of C06 builds `Props.C06Auto` alone and reaches all three
-- files through these imports
import PintModel.Props.C06

namespace Pint.Props.C06Conv
open Pint Pint.Conv Pint.Gen.Converters

variable (env : Env) (v : Rat)

theorem C06_scale_to_map : scale_to_func.eval env v = some (v * env.par "scale") := rfl
theorem C06_scale_from_map : scale_from_func.eval env v = some (v / env.par "scale") := rfl
theorem C06_offset_to_map : offset_to_func.eval env v = some (v * env.par "scale" + env.par "offset") := rfl
theorem C06_offset_from_map : offset_from_func.eval env v = some ((v - env.par "offset") / env.par "scale") := rfl
theorem C06_log_to_map :
    log_to_func.eval env v = some (env.par "scale" * env.expf (env.logf (env.par "logbase") * (v / env.par "logfactor"))) := rfl
theorem C06_log_from_map :
    log_from_func.eval env v = some (env.par "logfactor" * env.logf (v / env.par "scale") / env.logf (env.par "logbase")) := rfl

theorem C06_scale_to_inplace : run env scale_to_inplace v = scale_to_func.eval env v := rfl
theorem C06_scale_from_inplace : run env scale_from_inplace v = scale_from_func.eval env v := rfl
theorem C06_offset_to_inplace : run env offset_to_inplace v = offset_to_func.eval env v := rfl
theorem C06_offset_from_inplace : run env offset_from_inplace v = offset_from_func.eval env v := rfl
theorem C06_scale_to_inplace_nonumpy : run env scale_to_inplace_nonumpy v = scale_to_func.eval env v := rfl
theorem C06_scale_from_inplace_nonumpy : run env scale_from_inplace_nonumpy v = scale_from_func.eval env v := rfl
theorem C06_offset_to_inplace_nonumpy : run env offset_to_inplace_nonumpy v = offset_to_func.eval env v := rfl
theorem C06_offset_from_inplace_nonumpy : run env offset_from_inplace_nonumpy v = offset_from_func.eval env v := rfl

theorem C06_log_to_inplace : run env log_to_inplace v = log_to_func.eval env v := by
  simp only [log_to_inplace, log_to_func, run, S.step, E.eval, bind, Option.bind, pure]
  congr 1
  grind
theorem C06_log_to_inplace_nonumpy : run env log_to_inplace_nonumpy v = log_to_func.eval env v := by
  simp only [log_to_inplace_nonumpy, log_to_func, run, S.step, E.eval, bind, Option.bind, pure]
  congr 1
  grind
theorem C06_log_from_inplace : run env log_from_inplace v = log_from_func.eval env v := by
  simp only [log_from_inplace, log_from_func, run, S.step, E.eval, bind, Option.bind, pure]
  congr 1
  grind
theorem C06_log_from_inplace_nonumpy : run env log_from_inplace_nonumpy v = log_from_func.eval env v := by
  simp only [log_from_inplace_nonumpy, log_from_func, run, S.step, E.eval, bind, Option.bind, pure]
  congr 1
  grind

/-- composition of two translated bodies -/
def andThen (f g : E) : Option Rat := (f.eval env v).bind (g.eval env)

theorem C06_scale_inverse (h : env.par "scale" ≠ 0) :
    andThen env v scale_to_func scale_from_func = some v ∧ andThen env v scale_from_func scale_to_func = some v := by
  simp only [andThen, scale_to_func, scale_from_func, E.eval, bind, Option.bind, pure, Option.some.injEq]
  constructor <;> grind

theorem C06_offset_inverse (h : env.par "scale" ≠ 0) :
    andThen env v offset_to_func offset_from_func = some v ∧ andThen env v offset_from_func offset_to_func = some v := by
  simp only [andThen, offset_to_func, offset_from_func, E.eval, bind, Option.bind, pure, Option.some.injEq]
  constructor <;> grind

/-- log unit → reference → log unit: needs a non-zero scale, log factor and base logarithm, and
    `log (exp x) = x` at the one point where it is used -/
theorem C06_log_inverse_from_to (hs : env.par "scale" ≠ 0) (hf : env.par "logfactor" ≠ 0)
    (hb : env.logf (env.par "logbase") ≠ 0)
    (hle : env.logf (env.expf (env.logf (env.par "logbase") * (v / env.par "logfactor")))
            = env.logf (env.par "logbase") * (v / env.par "logfactor")) :
    andThen env v log_to_func log_from_func = some v := by
  simp only [andThen, log_to_func, log_from_func, E.eval, bind, Option.bind, pure, Option.some.injEq]
  have h1 : env.par "scale" * env.expf (env.logf (env.par "logbase") * (v / env.par "logfactor")) / env.par "scale"
      = env.expf (env.logf (env.par "logbase") * (v / env.par "logfactor")) := by grind
  rw [h1, hle]
  grind

/-- reference → log unit → reference: needs `exp (log y) = y` at `y = v / scale` -/
theorem C06_log_inverse_to_from (hs : env.par "scale" ≠ 0) (hf : env.par "logfactor" ≠ 0)
    (hb : env.logf (env.par "logbase") ≠ 0)
    (hel : env.expf (env.logf (v / env.par "scale")) = v / env.par "scale") :
    andThen env v log_from_func log_to_func = some v := by
  simp only [andThen, log_to_func, log_from_func, E.eval, bind, Option.bind, pure, Option.some.injEq]
  have h1 : env.logf (env.par "logbase") *
      (env.par "logfactor" * env.logf (v / env.par "scale") / env.logf (env.par "logbase") / env.par "logfactor")
      = env.logf (v / env.par "scale") := by grind
  rw [h1, hel]
  grind

def envOf (scale offset : Rat) : Env :=
  { par := fun n => if n = "scale" then scale else if n = "offset" then offset else 0, logf := id, expf := id }

theorem C06_model_to_scale (s x : Rat) :
    (Registry.toReference (.scale s) x).toOption = scale_to_func.eval (envOf s 0) x := rfl
theorem C06_model_to_offset (s o x : Rat) :
    (Registry.toReference (.offset s o) x).toOption = offset_to_func.eval (envOf s o) x := rfl
theorem C06_model_from_scale (s x : Rat) (h : s ≠ 0) :
    (Registry.fromReference (.scale s) x).toOption = scale_from_func.eval (envOf s 0) x := by
  simp [Registry.fromReference, h, scale_from_func, E.eval, envOf, Except.toOption]
theorem C06_model_from_offset (s o x : Rat) (h : s ≠ 0) :
    (Registry.fromReference (.offset s o) x).toOption = offset_from_func.eval (envOf s o) x := by
  simp [Registry.fromReference, h, offset_from_func, E.eval, envOf, Except.toOption]

/-- every class and method was found and translated, nothing fell back to `bad` -/
theorem C06_translated_all :
    translated = [("ScaleConverter", "to_reference"), ("ScaleConverter", "from_reference"),
      ("OffsetConverter", "to_reference"), ("OffsetConverter", "from_reference"),
      ("LogarithmicConverter", "from_reference"), ("LogarithmicConverter", "to_reference")] := by decide

/-! non-vacuity: the hypotheses of the inverse laws are satisfiable (identity interpretation of log / exp) -/
example : andThen (envOf 3 0) 5 scale_to_func scale_from_func = some 5 := by decide +kernel
example : andThen (envOf (5/9) (45967/180)) 32 offset_to_func offset_from_func = some 32 := by decide +kernel


def envLog : Env :=
  { par := fun n => if n = "scale" then 1/1000 else if n = "logbase" then 10 else if n = "logfactor" then 10 else 0,
    logf := id, expf := id }
example : andThen envLog 30 log_to_func log_from_func = some 30 :=
  C06_log_inverse_from_to envLog 30 (by decide +kernel) (by decide +kernel) (by decide +kernel) rfl
example : andThen envLog 7 log_from_func log_to_func = some 7 :=
  C06_log_inverse_to_from envLog 7 (by decide +kernel) (by decide +kernel) (by decide +kernel) rfl

end Pint.Props.C06Conv
