/-
  C20 — the bundled registry carries the internationally standardised values.

  `Gen.defaultRegistry` is regenerated from pint/default_en.txt + constants_en.txt on every run;
  `Gen.standards` / `Gen.stdPrefixes` come from the curated independent tables under spec/.
  The theorems are whole-table kernel evaluations (`decide +kernel`, no extra axioms).
-/
import PintModel.Gen.DefaultRegistry
import PintModel.Gen.Standards

namespace Pint.Props.C20
open Pint

/-- one row of the curated table holds in registry `R` -/
def checkStd (R : Registry) (e : Gen.Std) : Bool :=
  match R.units.find? e.name with
  | none => false
  | some d =>
    (match R.getRootUnits [(e.name, 1)] with
      | .ok (f, _) => f == e.factor
      | .error _ => false) &&
    (match R.getDimensionality [(e.name, 1)] with
      | .ok dm => dm.beq e.dims
      | .error _ => false) &&
    (match e.symbol with
      | some s => d.sym == s
      | none => true) &&
    (match e.offset with
      | some o => (match d.conv with
          | .offset _ o' => o' == o
          | _ => false)
      | none => d.conv.isMultiplicative)

def checkPrefix (R : Registry) (p : Gen.StdPrefix) : Bool :=
  match R.prefixes.find? p.name with
  | none => false
  | some d => d.value == p.value && d.sym == p.symbol &&
      (match R.prefixes.find? p.symbol with
        | some d' => d'.name == p.name
        | none => false)

/-- every unit and constant of the curated table has exactly its standardised factor to
    root units, its dimensionality, its symbol and (temperature scales) its offset -/
theorem C20_all : Gen.standards.all (checkStd Gen.defaultRegistry) = true := by
  decide +kernel

/-- the 24 SI prefixes and the 8 binary prefixes: value and symbol -/
theorem C20_prefixes : Gen.stdPrefixes.all (checkPrefix Gen.defaultRegistry) = true := by
  decide +kernel

/-- non-vacuity: the sizes of the two tables -/
example : Gen.standards.length > 100 ∧ Gen.stdPrefixes.length = 32 := by decide +kernel

end Pint.Props.C20
