import PintModel.Model.UC
import PintModel.Model.Registry
import PintModel.Model.Load
import PintModel.Gen.DefaultRegistry
import PintModel.DriverOps
import PintModel.Model.Quantity
import PintModel.Model.Pi
import PintModel.Model.EvalTree
import PintModel.Model.Format
import PintModel.Model.Context
import PintModel.Model.GroupSys
import PintModel.Model.Rewrite
import PintModel.Model.Wraps
import PintModel.Model.Measure
import PintModel.Model.Serial
import PintModel.Model.Numpy
import PintModel.Props.C01
import PintModel.Props.C02
import PintModel.Props.C03
import PintModel.Props.C04
import PintModel.Props.C05
import PintModel.Props.C06
import PintModel.Props.C06Conv
import PintModel.Props.C07
import PintModel.Props.C08
import PintModel.Props.C09
import PintModel.Props.C10
import PintModel.Props.C10Load
import PintModel.Props.C11
import PintModel.Props.C12
import PintModel.Props.C13
import PintModel.Props.C13Policy
import PintModel.Props.C14
import PintModel.Props.C14Memo
import PintModel.Props.C15
import PintModel.Props.C16
import PintModel.Props.C17
import PintModel.Props.C18
import PintModel.Props.C19
import PintModel.Props.C20
import PintModel.Props.C02All
import PintModel.Props.C09Denote
import PintModel.Props.C08Sym
import PintModel.Props.C06Auto
import PintModel.Props.C11Params
import PintModel.Proofs.QtyExamples
